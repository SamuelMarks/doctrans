import DT.FsSync
/-! The decision logic of `doctrans.__main__.main` (after argparse's own syntax checks). -/
namespace Cli

inductive Kind where | argparse | cls | func
deriving DecidableEq, Repr

/-- what argparse hands over for one kind: the `--<kind>` files (existence flag each; `none` = option
    absent; argparse's `append` never yields an empty list) and whether `--<kind>-name` was given -/
structure KindArgs where
  files : Option (List Bool) := none
  named : Bool := false
deriving DecidableEq, Repr

structure SyncArgs where
  truth : Kind
  a : KindArgs
  c : KindArgs
  f : KindArgs
deriving DecidableEq, Repr

def SyncArgs.get (x : SyncArgs) : Kind → KindArgs
  | .argparse => x.a | .cls => x.c | .func => x.f

inductive Decision where
  | usageError        -- `_parser.error(...)`: exit status 2, nothing else happens
  | accept            -- dispatched to the operation
  | internalError     -- an exception that is not a usage error escapes `main`
deriving DecidableEq, Repr

def nFiles (k : KindArgs) : Nat := (k.files.map (·.length)).getD 0

/-- `main(["sync", ...])` as repaired by fix 89b7e5c -/
def syncDecide (x : SyncArgs) : Decision :=
  match (x.get x.truth).files with
  | none => .usageError                                   -- "--truth must be an existent file. Got: None"
  | some fl =>
    if nFiles x.a + nFiles x.c + nFiles x.f < 2 then .usageError
    else if fl.head? != some true then .usageError          -- first file of the truth kind must exist
    else if [x.a, x.c, x.f].any (fun k => k.files.isSome && !k.named) then .usageError
    else .accept

/-- the same before the repair (kept for the record of finding D17): a missing name, or a kind that
    was not given at all, was accepted and then raised `TypeError` inside `ground_truth` -/
def syncDecideOld (x : SyncArgs) : Decision :=
  match (x.get x.truth).files with
  | none => .usageError
  | some fl =>
    if nFiles x.a + nFiles x.c + nFiles x.f < 2 then .usageError
    else if fl.head? != some true then .usageError
    else if [x.a, x.c, x.f].any (fun k => !k.named) then .internalError
    else .accept

/-- `main(["sync_properties", ...])`: both files must exist -/
def syncPropsDecide (inputExists outputExists : Bool) : Decision :=
  if !inputExists then .usageError else if !outputExists then .usageError else .accept

inductive GenDecision where | refuse | accept
deriving DecidableEq, Repr
/-- `main(["gen", ...])`: an existing output file is never touched (`IOError`) -/
def genDecide (outputExists : Bool) : GenDecision := if outputExists then .refuse else .accept

open FsSync

/-- a rejected invocation performs no step; an accepted `sync` runs its targets in order -/
def syncRun (x : SyncArgs) (fs : FS) (ts : List Target) (fault : Option (Nat × Nat)) : FS :=
  match syncDecide x with
  | .accept => runTargets fs ts fault
  | _ => fs

theorem sync_never_internal (x : SyncArgs) : syncDecide x ≠ .internalError := by
  fun_cases syncDecide x <;> simp

theorem sync_reject_untouched (x : SyncArgs) (fs : FS) (ts : List Target) (fault : Option (Nat × Nat))
    (h : syncDecide x ≠ .accept) : syncRun x fs ts fault = fs := by
  unfold syncRun
  cases hd : syncDecide x <;> simp_all

/-- accepted ⇔ every given kind carries a name, at least two files, the truth file exists -/
theorem sync_accept_iff (x : SyncArgs) :
    syncDecide x = .accept ↔
      (∃ fl, (x.get x.truth).files = some fl ∧ fl.head? = some true) ∧
      2 ≤ nFiles x.a + nFiles x.c + nFiles x.f ∧
      ([x.a, x.c, x.f].any (fun k => k.files.isSome && !k.named)) = false := by
  -- the five branches of `syncDecide`, in its order: each rejection refutes one conjunct
  fun_cases syncDecide x
  case case1 h =>  -- the truth kind was given no files
    exact iff_of_false nofun fun ⟨⟨_, e, _⟩, _⟩ => by simp [h] at e
  case case2 h =>  -- fewer than two files
    exact iff_of_false nofun fun ⟨_, h2, _⟩ => Nat.not_lt_of_le h2 h
  case case3 fl h _ hd =>  -- the truth file does not exist
    exact iff_of_false nofun fun ⟨⟨_, e, hd'⟩, _⟩ => by cases h.symm.trans e; simp [hd'] at hd
  case case4 h =>  -- a kind with files and no name
    exact iff_of_false nofun fun ⟨_, _, h3⟩ => by simp [h3] at h
  case case5 fl h h1 hd hn =>
    exact iff_of_true rfl ⟨⟨fl, h, by simpa using hd⟩, Nat.le_of_not_lt h1, (Bool.not_eq_true _).mp hn⟩

/-- D17 as it was: an invocation the old command line accepted and then crashed on -/
theorem syncOld_internal_witness :
    syncDecideOld { truth := .cls, a := {}, c := { files := some [true], named := true },
                    f := { files := some [false], named := true } } = .internalError := by decide

/-- …which the repaired command line carries out -/
theorem sync_two_kinds_accepted :
    syncDecide { truth := .cls, a := {}, c := { files := some [true], named := true },
                 f := { files := some [false], named := true } } = .accept := by decide

/-- **C20, invocation level**: whatever the arguments and wherever a write faults, every target of a
    `sync` is afterwards byte-identical to before or completely rewritten, and no temporary file is left. -/
theorem sync_all_or_nothing (x : SyncArgs) (fs : FS) (ts : List Target) (hf : Fresh fs ts)
    (fault : Option (Nat × Nat)) :
    ∀ t ∈ ts, ((syncRun x fs ts fault) t.p = fs t.p ∨ (syncRun x fs ts fault) t.p = some (t.a ++ t.b))
              ∧ (syncRun x fs ts fault) t.tmp = none := by
  intro t ht
  unfold syncRun
  cases hd : syncDecide x with
  | accept => exact runTargets_all_or_nothing ts fs hf fault t ht
  | _ => exact ⟨Or.inl rfl, hf.2 t ht⟩

end Cli
