import DT.FuncDocTheorems
import DT.RestRT
/-! C03 / C02, the docstring half of the function and class kinds composed: `to_docstring` -> `inspect.cleandoc` ->
    `parse_docstring`. `FuncDoc.C03_docstring_half` is the theorem, for both values of `inline_types`. Before it and
    after it the parser's stages are spelt out for each of the two values, each an instance of a theorem of `RestParse`:
    `FuncDocParse` (`:param` and `:type` lines; it also holds the summary prefix `pre0` that all three namespaces use) and
    `FuncDocInline` (`:param` lines only, the default of `emit.function`). -/
namespace Py
namespace FuncDocParse

def pre0 (D : Str) : Str := D ++ ['\n', '\n']

theorem pre0_clean (D : Str) (hD : ncl D = true) : Clean restTokens (pre0 D) :=
  ncl_clean (ncl_append_ws D ['\n', '\n'] hD (by decide))

theorem strip_pre0 (D : Str) (hDt : Trimmed D) (hDne : D ≠ []) : strip pyWs (pre0 D) = D := by
  simpa [pre0] using hDt.strip_pad hDne [] ['\n', '\n'] (by decide) (by decide)

/-- the `:type` segment of the LAST entry: nothing after the closing back-ticks -/
def typeBody0 (n t : Str) : Str := ' ' :: n ++ ':' :: ' ' :: (bt3 ++ t ++ bt3)

def lastSegs (l : Triple) : List (Str × Str) := [(tokParam, paramBody l.1 l.2.1), (tokType, typeBody0 l.1 l.2.2)]

/-- the text handed to the parser: entries of `ts` with their usual separators, then the last entry -/
def text0 (D : Str) (ts : List Triple) (l : Triple) : Str := pre0 D ++ segText (segsOf ts ++ lastSegs l)

def lastItems (l : Triple) : List (Bool × Str) :=
  [(true, tokParam ++ paramBody l.1 l.2.1), (true, tokType ++ typeBody0 l.1 l.2.2)]

theorem lastSegs_eq (l : Triple) : lastSegs l = (entOf true [] l).segs := by
  simp [lastSegs, REntry.segs, entOf, bodyOf, paramBody, typeBody0]

theorem fold_last (st : ParseSt) (cn : Option Str) (cp : Param) (x : Triple) (hx : TripleOK x)
    (hcur : st.cur = some (cn, cp))
    (hstate : (cn = none ∧ cp = {}) ∨ (∃ m, cn = some m ∧ m ≠ x.1 ∧ m ≠ [] ∧ m.head? ≠ some '*')) :
    foldRes (parseStepRest true false true) st (lastItems x) =
      .ok { st with params := flushInto st.params cn cp, cur := some (some x.1, mkParam x.2.1 x.2.2) } := by
  have := fold_entry st cn cp (entOf true [] x) (entOf_ok true (by decide) hx) hcur hstate
  rw [← lastSegs_eq] at this
  exact this

/-- the final flush and the closing passes, on the state the fold leaves -/
theorem finish (D : Str) (ps : List Triple) (l : Triple) (hok : ∀ x ∈ ps ++ [l], TripleOK x)
    (hnd : ((ps ++ [l]).map (·.1)).Nodup) (st : ParseSt)
    (hst : st = { doc := D, params := ps.map entryOf, returns := none, cur := some (some l.1, mkParam l.2.1 l.2.2) }) :
    ((match st.cur with
      | some (some n, p) =>
        (interpolateDefaults p true).bind fun p1 =>
        (setNameAndType (some n) p1 false true).bind fun (n2, p2) =>
        (Res.ok { st with params := st.params.set n2 p2 } : Res ParseSt)
      | _ => .ok st).bind fun st =>
      (mapParams (fun p => interpolateDefaults p true) st.params).bind fun ps' =>
      (match st.returns with
        | some r => (interpolateDefaults r true).bind fun r' => (Res.ok (some r') : Res (Option Param))
        | none => .ok none).bind fun r => (Res.ok { doc := st.doc, params := ps', returns := r } : Res IR))
      = .ok (mkIR D (ps ++ [l])) := by
  subst hst
  have := closeRest_entries D (ps.map (entOf true [])) (entOf true [] l) none (entOf_oks true (by decide) (by decide) hok)
    (by rw [entOf_names]; exact hnd) (fun _ h => nomatch h)
  rw [irOf, entOf_entries, List.map_map] at this
  exact this

/-- **the ReST parser on the cleaned text**: the summary, an empty line, the entries one empty line apart - NO line break
    in front, none after the last line (the text of `RestRT.parse_emitted` is what `emit.docstring` writes: it starts
    with a line break and ends with two) -/
theorem parse_cleaned (b : Bool) (D : Str) (ts : List Triple) (l : Triple) (hDne : D ≠ []) (hDt : Trimmed D)
    (hDc : ncl D = true) (hok : ∀ x ∈ ts ++ [l], TripleOK x) (hnd : ((ts ++ [l]).map (·.1)).Nodup) :
    parseDocstringRest (pre0 D ++ segText ((ts.map (entOf b ['\n', '\n']) ++ [entOf b [] l]).flatMap REntry.segs)) true =
      .ok { doc := D, params := (ts ++ [l]).map (readBack b), returns := none } := by
  have := parseRest_entries (pre0 D) (ts.map (entOf b ['\n', '\n'])) (entOf b [] l) none (pre0_clean D hDc)
    (entOf_oks b (by decide) (by decide) hok) (by rw [entOf_names]; exact hnd) (fun _ h => nomatch h)
  rw [strip_pre0 D hDt hDne, irOf, entOf_entries, retSegsO, List.append_nil] at this
  exact this

/-- **the ReST parser on the cleaned docstring of a doctrans-written function / class** (default-free domain): it reads
    back the summary and every entry - any number of entries, texts of any length -/
theorem parse_text0 (D : Str) (ts : List Triple) (l : Triple)
    (hDne : D ≠ []) (hDt : Trimmed D) (hDc : ncl D = true)
    (hok : ∀ x ∈ ts ++ [l], TripleOK x) (hnd : ((ts ++ [l]).map (·.1)).Nodup) :
    parseDocstringRest (text0 D ts l) true = .ok (mkIR D (ts ++ [l])) := by
  have := parse_cleaned true D ts l hDne hDt hDc hok hnd
  rw [List.flatMap_append, ← segsOf_eq, List.flatMap_singleton, ← lastSegs_eq] at this
  exact this

end FuncDocParse

namespace FuncDoc
open ToDocstring NumpyRT FuncDocParse

theorem trimBlank_content (b : Bool) (D : Str) (ts : List Triple) (l : Triple) (hD : D ≠ []) :
    trimBlank (([] : Str) :: contentLinesOf b D (ts ++ [l])) = D :: [] :: chunkOf b ts ++ entryLines b l := by
  have hd : docLine l.1 l.2.1 ≠ [] := List.cons_ne_nil _ _
  have ht : typLine l.1 l.2.2 ≠ [] := List.cons_ne_nil _ _
  cases b
  · have := trimBlank_mid D (docLine l.1 l.2.1) ([] :: chunkOf false ts) hD hd
    simpa [contentLinesOf, chunkOf, entryLines, List.flatMap_append] using this
  · have := trimBlank_mid D (typLine l.1 l.2.2) ([] :: chunkOf true ts ++ [docLine l.1 l.2.1]) hD ht
    simpa [contentLinesOf, chunkOf, entryLines, List.flatMap_append] using this

theorem chunk_segs (b : Bool) : ∀ (ts : List Triple),
    ((chunkOf b ts).map (· ++ ['\n'])).flatten = segText ((ts.map (entOf b ['\n', '\n'])).flatMap REntry.segs)
  | [] => rfl
  | x :: r => by
    rw [List.map_cons, List.flatMap_cons, segText_append, ← entry_segs, ← chunk_segs b r, chunkOf_cons, List.map_append,
      List.flatten_append, List.map_append, List.flatten_append,
      ← joinWith_append_sep ['\n'] (entryLines b x) (List.cons_ne_nil _ _)]
    simp

/-- **the cleaned text is a summary, an empty line and entries**: joined by line breaks, the content lines without the
    blank lines at either end are the text the ReST parser theorem speaks of -/
theorem cleaned_is_entries (b : Bool) (D : Str) (ts : List Triple) (l : Triple) (hD : D ≠ []) :
    joinWith ['\n'] (trimBlank (([] : Str) :: contentLinesOf b D (ts ++ [l]))) =
      pre0 D ++ segText ((ts.map (entOf b ['\n', '\n']) ++ [entOf b [] l]).flatMap REntry.segs) := by
  rw [trimBlank_content b D ts l hD, joinWith_append _ _ (entryLines b l) (by simp) (List.cons_ne_nil _ _),
    joinWith_append_sep _ _ (by simp), List.map_cons, List.map_cons, List.flatten_cons, List.flatten_cons, chunk_segs,
    List.flatMap_append, segText_append, List.flatMap_singleton, ← entry_segs b [] l]
  simp [pre0, List.append_assoc]

theorem entries_isRestStyle (pre : Str) (es : List REntry) (l : REntry) :
    isRestStyle (pre ++ segText ((es ++ [l]).flatMap REntry.segs)) = true := by
  rw [isRestStyle, List.any_eq_true]
  refine ⟨tokParam, by decide, (containsSub_iff _ _).mpr ?_⟩
  refine ⟨pre ++ segText (es.flatMap REntry.segs), bodyOf (' ' :: l.n) l.d l.w ++ segText l.segs.tail, ?_⟩
  simp [REntry.segs, segText, List.flatMap_append, List.append_assoc]

/-- **the docstring half of the function / class kinds on the default-free domain**, the types in the docstring
    (`b = true`) or in the signature: `to_docstring`, `inspect.cleandoc`, then the ReST parser give back the summary and
    every entry - with its type exactly when the docstring carries it -/
theorem C03_docstring_half (b : Bool) (D : Str) (ts : List Triple) (l : Triple)
    (hok : ∀ x ∈ ts ++ [l], BlockOK x)
    (hDne : D ≠ []) (hDt : Trimmed D) (hDnl : '\n' ∉ D) (hDm : AtMargin D) (hDtab : '\t' ∉ D) (hDc : ncl D = true)
    (hsepD : DocScan.otherSeparators D = false) (hsepP : ∀ x ∈ ts ++ [l], DocScan.otherSeparators x.2.1 = false)
    (htab : ∀ x ∈ ts ++ [l], NoTab x) (hnd : ((ts ++ [l]).map (·.1)).Nodup) (edd : Bool) (level : Nat) :
    funcDocRT (mkIR D (ts ++ [l])) edd level b true =
      .ok { doc := D, params := (ts ++ [l]).map (readBack b), returns := none } := by
  have h1 := toDocstring_text D (ts ++ [l]) (by simp) hok hDne hDt hDnl hsepD hsepP edd level b true
  have h2 := cleandoc_toDocstring_both b D (ts ++ [l]) (by simp) hok hDne hDt hDnl hDm hDtab hsepD hsepP htab edd level
  rw [h1] at h2
  have hT : ∀ x ∈ ts ++ [l], TripleOK x := fun x hx => ⟨(hok x hx).1.1, (hok x hx).1.2.1.1, (hok x hx).1.2.2⟩
  have hne : ∀ s : Str, (pre0 D ++ s).isEmpty = false := fun s => by simp [pre0]
  unfold funcDocRT
  rw [h1]
  simp only [Res.bind] at h2 ⊢
  simp only [h2, cleaned_is_entries b D ts l hDne, entries_isRestStyle, hne, Bool.not_true, Bool.false_eq_true, if_false,
    parse_cleaned b D ts l hDne hDt hDc hT hnd]

/-- **the docstring half of the function / class kinds is the identity on the default-free domain**: what
    `parse.docstring` reads from the docstring `emit.function` / `emit.class_` wrote (`to_docstring`, then
    `inspect.cleandoc` as `ast.get_docstring` applies it, then the ReST parser) is the description it was written
    from - at EVERY indentation level, for any number (≥ 1) of uniquely named, typed, described, default-free entries
    and texts of any length. (Partial: types in the docstring and the separating indentation on; no defaults, no return
    entry; one-line summary that starts with a visible character; no tabs; no line separator other than `\n`.) -/
theorem C03_docstring_half_partial (D : Str) (ts : List Triple) (l : Triple)
    (hok : ∀ x ∈ ts ++ [l], BlockOK x)
    (hDne : D ≠ []) (hDt : Trimmed D) (hDnl : '\n' ∉ D) (hDm : AtMargin D) (hDtab : '\t' ∉ D) (hDc : ncl D = true)
    (hsepD : DocScan.otherSeparators D = false) (hsepP : ∀ x ∈ ts ++ [l], DocScan.otherSeparators x.2.1 = false)
    (htab : ∀ x ∈ ts ++ [l], NoTab x) (hnd : ((ts ++ [l]).map (·.1)).Nodup) (edd : Bool) (level : Nat) :
    funcDocRT (mkIR D (ts ++ [l])) edd level true true = .ok (mkIR D (ts ++ [l])) :=
  C03_docstring_half true D ts l hok hDne hDt hDnl hDm hDtab hDc hsepD hsepP htab hnd edd level

end FuncDoc

namespace FuncDocInline
open ToDocstring NumpyRT FuncDoc FuncDocParse

/-- the `:param` segment with ANY white space after the prose (one line break before a `:type` line, two before the
    next entry, none at the end of the cleaned text) -/
def paramBodyW (n d w : Str) : Str := ' ' :: n ++ ':' :: ' ' :: d ++ w

/-- line breaks only (a special case of `AllWs`) -/
def WS (w : Str) : Prop := ∀ c ∈ w, c = '\n'

theorem WS.allWs {w : Str} (hw : WS w) : AllWs w := fun c hc => by rw [hw c hc]; decide

theorem parseStep_paramW (st : ParseSt) (cn : Option Str) (cp : Param) (n d w : Str) (hn : NameOK n) (hd : DocOK d) (hw : WS w)
    (hcur : st.cur = some (cn, cp))
    (hstate : (cn = none ∧ cp = {}) ∨ (∃ m, cn = some m ∧ m ≠ n ∧ m ≠ [] ∧ m.head? ≠ some '*')) :
    parseStepRest true false true st (true, tokParam ++ paramBodyW n d w) =
      .ok { st with params := flushInto st.params cn cp,
                    cur := some (some n, { doc := some d }) } :=
  parseStep_param st cn cp n d w hn hd hw.allWs hcur hstate

abbrev Pair := Str × Str
def PairOK (x : Pair) : Prop := NameOK x.1 ∧ DocOK x.2
def entryD (x : Pair) : Str × Param := (x.1, { doc := some x.2 })
def W2 : Str := ['\n', '\n']

def itemD (w : Str) (x : Pair) : Bool × Str := (true, tokParam ++ paramBodyW x.1 x.2 w)
def itemsDW (ps : List Pair) (l : Pair) (w : Str) : List (Bool × Str) := ps.map (itemD W2) ++ [itemD w l]

def ofPair (w : Str) (x : Pair) : REntry := ⟨x.1, x.2, w, none⟩

theorem ofPair_oks {w : Str} (hw : AllWs w) {ps : List Pair} {l : Pair} (hok : ∀ x ∈ ps ++ [l], PairOK x) :
    ∀ y ∈ ps.map (ofPair W2) ++ [ofPair w l], y.OK := by
  simp only [List.forall_mem_append, List.forall_mem_map, List.forall_mem_singleton] at hok ⊢
  exact ⟨fun x hx => ⟨(hok.1 x hx).1, (hok.1 x hx).2, (by decide : AllWs W2), by rintro tw ⟨⟩⟩,
    ⟨hok.2.1, hok.2.2, hw, by rintro tw ⟨⟩⟩⟩

theorem ofPair_names (w : Str) (ps : List Pair) (l : Pair) :
    (ps.map (ofPair W2) ++ [ofPair w l]).map (·.n) = (ps ++ [l]).map (·.1) := by
  simp [ofPair, Function.comp_def]

theorem ofPair_entries (w : Str) (ps : List Pair) (l : Pair) :
    (ps.map (ofPair W2) ++ [ofPair w l]).map REntry.entry = (ps ++ [l]).map entryD := by
  simp [entryD, REntry.entry, REntry.param, ofPair]

theorem itemsDW_eq (ps : List Pair) (l : Pair) (w : Str) :
    itemsDW ps l w = itemsOfSegs ((ps.map (ofPair W2) ++ [ofPair w l]).flatMap REntry.segs) := by
  simp only [itemsDW, itemsOfSegs, List.flatMap_append, List.map_append, List.flatMap_map, List.map_flatMap]
  congr 1
  rw [List.map_eq_flatMap]; simp [itemD, REntry.segs, ofPair, bodyOf, paramBodyW]

/-- the fold over `:param`-only entries: every item flushes the entry collected before it; the last stays pending -/
theorem fold_docsW (w : Str) (hw : WS w) (l : Pair) : ∀ (ps : List Pair) (st : ParseSt) (cn : Option Str) (cp : Param),
    (∀ x ∈ ps ++ [l], PairOK x) → ((ps ++ [l]).map (·.1)).Nodup → st.cur = some (cn, cp) →
    ((cn = none ∧ cp = {}) ∨ (∃ m, cn = some m ∧ m ∉ (ps ++ [l]).map (·.1) ∧ m ≠ [] ∧ m.head? ≠ some '*')) →
    (∀ x ∈ ps ++ [l], x.1 ∉ keys (flushInto st.params cn cp)) →
    foldRes (parseStepRest true false true) st (itemsDW ps l w) =
      .ok { st with params := flushInto st.params cn cp ++ ps.map entryD, cur := some (some l.1, { doc := some l.2 }) } := by
  intro ps st cn cp hok hnd hcur hstate hfresh
  have := fold_entries (ps.map (ofPair W2)) (ofPair w l) st cn cp (ofPair_oks hw.allWs hok)
    (by rw [ofPair_names]; exact hnd) hcur (by rw [ofPair_names]; exact hstate)
    (by
      simp only [List.forall_mem_append, List.forall_mem_map, List.forall_mem_singleton] at hfresh ⊢
      exact hfresh)
  rw [← itemsDW_eq] at this
  rw [this]
  simp [REntry.entry, REntry.param, ofPair, entryD, List.map_map, Function.comp_def]

def mkIRd (D : Str) (ps : List Pair) : IR := { doc := D, params := ps.map entryD, returns := none }

def segsD (ps : List Pair) (l : Pair) : List (Str × Str) :=
  ps.map (fun x => (tokParam, paramBodyW x.1 x.2 W2)) ++ [(tokParam, paramBodyW l.1 l.2 [])]

def textI (D : Str) (ps : List Pair) (l : Pair) : Str := pre0 D ++ segText (segsD ps l)

theorem segsD_eq (ps : List Pair) (l : Pair) : segsD ps l = (ps.map (ofPair W2) ++ [ofPair [] l]).flatMap REntry.segs := by
  simp [segsD, REntry.segs, ofPair, bodyOf, paramBodyW, List.flatMap_map, List.flatMap_append]
  exact List.map_eq_flatMap

/-- the ReST parser on the cleaned docstring of a function written with the types in its signature -/
theorem parse_textI (D : Str) (ps : List Pair) (l : Pair)
    (hDne : D ≠ []) (hDt : Trimmed D) (hDc : ncl D = true)
    (hok : ∀ x ∈ ps ++ [l], PairOK x) (hnd : ((ps ++ [l]).map (·.1)).Nodup) :
    parseDocstringRest (textI D ps l) true = .ok (mkIRd D (ps ++ [l])) := by
  have := parseRest_entries (pre0 D) (ps.map (ofPair W2)) (ofPair [] l) none (pre0_clean D hDc)
    (ofPair_oks (by decide) hok) (by rw [ofPair_names]; exact hnd) (fun _ h => nomatch h)
  rw [strip_pre0 D hDt hDne, irOf, ofPair_entries, ← segsD_eq, retSegsO, List.append_nil] at this
  exact this

def pairOf (x : Triple) : Pair := (x.1, x.2.1)

/-- **the docstring half of the function kind with the types in the signature** (`emit.function(inline_types=True)`,
    the default): what `parse.docstring` reads from the docstring the emitter wrote is the summary and every entry with its
    prose (the types travel in the annotations) - at EVERY indentation level, any number (≥ 1) of entries. Same
    restrictions as `C03_docstring_half_partial`. -/
theorem C03_docstring_half_inline_partial (D : Str) (ts : List Triple) (l : Triple)
    (hok : ∀ x ∈ ts ++ [l], BlockOK x)
    (hDne : D ≠ []) (hDt : Trimmed D) (hDnl : '\n' ∉ D) (hDm : AtMargin D) (hDtab : '\t' ∉ D) (hDc : ncl D = true)
    (hsepD : DocScan.otherSeparators D = false) (hsepP : ∀ x ∈ ts ++ [l], DocScan.otherSeparators x.2.1 = false)
    (htab : ∀ x ∈ ts ++ [l], NoTab x) (hnd : ((ts ++ [l]).map (·.1)).Nodup) (edd : Bool) (level : Nat) :
    funcDocRT (mkIR D (ts ++ [l])) edd level false true = .ok (mkIRd D ((ts ++ [l]).map pairOf)) :=
  (C03_docstring_half false D ts l hok hDne hDt hDnl hDm hDtab hDc hsepD hsepP htab hnd edd level).trans
    (by rw [mkIRd, List.map_map]; rfl)

end FuncDocInline
end Py
