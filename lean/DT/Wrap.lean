import DT.StrLemmas
/-! C18: `textwrap.fill` on the class of text where it is simple — words separated by single spaces,
    no tab / newline / hyphen, every word no longer than the width (so `break_long_words` and
    `break_on_hyphens` never act). Greedy line filling, as `TextWrapper._wrap_chunks` does. -/
namespace Py
namespace Wrap

def lineLen : List Str → Nat
  | [] => 0
  | [x] => x.length
  | x :: xs => x.length + 1 + lineLen xs

/-- greedy filling: `cur` is the line under construction -/
def wrapGo (w : Nat) : List Str → List Str → List (List Str)
  | cur, [] => if cur.isEmpty then [] else [cur]
  | cur, x :: xs =>
    if cur.isEmpty then wrapGo w [x] xs
    else if lineLen (cur ++ [x]) ≤ w then wrapGo w (cur ++ [x]) xs
    else cur :: wrapGo w [x] xs

def wrapWords (w : Nat) (ws : List Str) : List (List Str) := wrapGo w [] ws

/-- `textwrap.fill(s, width=w)` for simple `s` -/
def fillSimple (w : Nat) (s : Str) : Str :=
  joinWith ['\n'] ((wrapWords w (splitOnChar ' ' s)).map (joinWith [' ']))

/-- **layout only**: the words of the lines, in order, are exactly the words given — none lost, none
    duplicated, none moved to another position -/
theorem wrapGo_flatten (w : Nat) : ∀ (ws cur : List Str), (wrapGo w cur ws).flatten = cur ++ ws := by
  intro ws cur
  fun_induction wrapGo w cur ws <;> simp_all

theorem wrapWords_flatten (w : Nat) (ws : List Str) : (wrapWords w ws).flatten = ws := by
  unfold wrapWords; rw [wrapGo_flatten]; rfl

theorem lineLen_single (x : Str) : lineLen [x] = x.length := rfl

theorem lineLen_cons (x : Str) (xs : List Str) (h : xs ≠ []) : lineLen (x :: xs) = x.length + 1 + lineLen xs := by
  cases xs with
  | nil => exact absurd rfl h
  | cons _ _ => rfl

/-- the invariant of the greedy loop, for a property of single lines: what holds of the line under construction and of
    every one-word line, and survives adding a word that still fits, holds of every line produced -/
theorem wrapGo_forall (w : Nat) (Q : List Str → Prop) (ws cur : List Str) (hcur : cur ≠ [] → Q cur)
    (h1 : ∀ x ∈ ws, Q [x]) (hext : ∀ l x, Q l → lineLen (l ++ [x]) ≤ w → Q (l ++ [x])) :
    ∀ l ∈ wrapGo w cur ws, Q l := by
  fun_induction wrapGo w cur ws with
  | case1 cur hc => simp
  | case2 cur hc => simpa using hcur (by simpa using hc)
  | case3 cur x xs hc ih => exact ih (fun _ => h1 x (by simp)) fun y hy => h1 y (by simp [hy])
  | case4 cur x xs hc hf ih => exact ih (fun _ => hext cur x (hcur (by simpa using hc)) hf) fun y hy => h1 y (by simp [hy])
  | case5 cur x xs hc hf ih =>
    intro l hl
    rcases List.mem_cons.mp hl with rfl | hl
    · exact hcur (by simpa using hc)
    · exact ih (fun _ => h1 x (by simp)) (fun y hy => h1 y (by simp [hy])) l hl

/-- no line is longer than the width, provided no single word is -/
theorem wrapGo_width (w : Nat) : ∀ (ws cur : List Str), (∀ x ∈ ws, x.length ≤ w) → lineLen cur ≤ w →
    ∀ l ∈ wrapGo w cur ws, lineLen l ≤ w :=
  fun ws cur hw hc => wrapGo_forall w (lineLen · ≤ w) ws cur (fun _ => hc) hw (fun _ _ _ h => h)

theorem length_joinWith (sep : Char) : ∀ l : List Str, (joinWith [sep] l).length = lineLen l
  | [] => rfl
  | [_] => rfl
  | x :: y :: r => by
    rw [joinWith_cons_cons, List.length_append, List.length_append, length_joinWith sep (y :: r)]; rfl

theorem lineLen_append_le (a b : List Str) : lineLen a ≤ lineLen (a ++ b) := by
  by_cases ha : a = []
  · subst ha; exact Nat.zero_le _
  by_cases hb : b = []
  · subst hb; rw [List.append_nil]; exact Nat.le_refl _
  rw [← length_joinWith ' ', ← length_joinWith ' ', joinWith_append _ a b ha hb, List.length_append, List.length_append]
  omega

/-- **fits ⇒ one line**: text that fits the width is not wrapped at all -/
theorem wrapGo_fits (w : Nat) : ∀ (ws cur : List Str), lineLen (cur ++ ws) ≤ w → cur ++ ws ≠ [] →
    wrapGo w cur ws = [cur ++ ws] := by
  intro ws cur hl hne
  fun_induction wrapGo w cur ws with
  | case1 cur hc => simp_all
  | case2 cur hc => simp
  | case3 cur x xs hc ih => simp_all
  | case4 cur x xs hc hf ih => simpa using ih (by simpa using hl) (by simp)
  | case5 cur x xs hc hf ih =>
    -- the line so far plus the next word is a prefix of the whole, which fits
    have := lineLen_append_le (cur ++ [x]) xs
    simp only [List.append_assoc, List.singleton_append] at this
    omega

theorem join_split (sep : Char) : ∀ s : Str, joinWith [sep] (splitOnChar sep s) = s
  | [] => rfl
  | c :: t => by
    have ih := join_split sep t
    by_cases hc : c = sep
    · subst hc
      rw [splitOnChar_cons_sep, joinWith_cons_ne _ _ _ (splitOnChar_ne_nil _ t), ih]; rfl
    · obtain ⟨x, y, e1, e2⟩ := splitOnChar_cons_ne sep c t hc
      rw [e1, joinWith_cons_flat] at ih
      rw [e2, joinWith_cons_flat, List.cons_append, ih]

theorem lineLen_split (sep : Char) : ∀ s : Str, lineLen (splitOnChar sep s) = s.length := fun s => by
  rw [← length_joinWith sep, join_split]

/-- **C18, the transparent case**: text that fits the line length comes out of `fill` unchanged -/
theorem fillSimple_id (w : Nat) (s : Str) (hne : s ≠ []) (hfit : s.length ≤ w) : fillSimple w s = s := by
  unfold fillSimple wrapWords
  have hsp : splitOnChar ' ' s ≠ [] := splitOnChar_ne_nil ' ' s
  have hl : lineLen ([] ++ splitOnChar ' ' s) ≤ w := by
    simp only [List.nil_append]; rw [lineLen_split]; exact hfit
  rw [wrapGo_fits w (splitOnChar ' ' s) [] hl (by simpa using hsp)]
  simp only [List.nil_append, List.map_cons, List.map_nil, joinWith]
  exact join_split ' ' s

end Wrap
end Py
