import DT.Rest
/-! L7/L8 at interface level: what emitting an interface description as a class / function /
    argparse function and parsing the artefact back does to the description (`norm k`), on the
    domain where that is a function of the description alone (`dom k`). The tie of these functions to the
    code is the differential run `conv k ir = norm k ir` on every generated in-domain description; the
    statement-level models of the AST emitters (`ClassAttr`, `FuncAttr`, `ArgAttr`; whole descriptions in `ClassKind`,
    `FuncKind`) give the same on the shapes they model (`Refine`). -/
namespace Py
namespace Kinds

def tInt : Str := ['i', 'n', 't']
def tFloat : Str := ['f', 'l', 'o', 'a', 't']
def tStr : Str := ['s', 't', 'r']
def tBool : Str := ['b', 'o', 'o', 'l']
def pOptional : Str := ['O', 'p', 't', 'i', 'o', 'n', 'a', 'l', '[']
def pList : Str := ['L', 'i', 's', 't', '[']
def pLiteral : Str := ['L', 'i', 't', 'e', 'r', 'a', 'l', '[']

def isScalar (t : Str) : Bool := t == tInt || t == tFloat || t == tStr || t == tBool

/-- `simple_types[typ]`: the zero value of a scalar type -/
def zeroOf (t : Str) : Val :=
  if t == tInt then .int false ['0']
  else if t == tFloat then .float ['0', '.', '0']
  else if t == tBool then .bool false
  else .str []

def isOptional (t : Str) : Bool := startsWith t pOptional
/-- `List[x]` with `x` scalar -/
def listInner (t : Str) : Option Str :=
  if startsWith t pList && endsWith t [']'] then
    let inner := (t.drop pList.length).take (t.length - pList.length - 1)
    if isScalar inner then some inner else none
  else none
def optionalInner (t : Str) : Option Str :=
  if startsWith t pOptional && endsWith t [']'] then some ((t.drop pOptional.length).take (t.length - pOptional.length - 1))
  else none
def isLiteral (t : Str) : Bool := startsWith t pLiteral

def sNone : Str := ['N', 'o', 'n', 'e']

/-- doctrans' `none_types`: Python `None`, the string "None", and the code-quoted `NoneStr` -/
def isNoneVal : Val → Bool
  | .none => true
  | .str s => s == sNone || s == noneStr
  | _ => false

/-- what the class / function / numpydoc / google parsers write for "no value" -/
def vNoneStr : Val := .str noneStr

/-- a code-quoted default (three back-ticks on both sides) -/
def isCodeVal : Val → Bool
  | .str s => codeQuoted s && s != noneStr
  | _ => false

inductive DocStyle where
  | rest | numpydoc | google
deriving DecidableEq, Repr

inductive Kind where
  | cls | func (inlineTypes : Bool) | argparse | doc (style : DocStyle)
deriving DecidableEq, Repr

/-! ### class -/

def classFill (p : Param) : Param :=
  match p.typ with
  | some t => { p with default := some (if isScalar t then zeroOf t else vNoneStr) }
  | none => { p with default := some vNoneStr }

def normClassParam (p : Param) : Param :=
  match p.default with
  | some v => if isNoneVal v then classFill p else p
  | none => classFill p

/-- common part of the AST kinds' domains; the string "None" (what the ReST parser writes for a None
    default) is read differently from `None`/`NoneStr` by the AST emitters and is left outside -/
def domAstParam (p : Param) : Bool := p.default != some (.str sNone)

/-- `_set_name_and_type`: prose that starts with "(Optional)" or "Optional" marks the entry optional; a type
    that is not already `Optional[...]` is wrapped (recorded finding: the declared type is not preserved) -/
def optionalProse (p : Param) : Bool :=
  match p.doc, p.typ with
  | some d, some t =>
    (startsWith d ['(', 'O', 'p', 't', 'i', 'o', 'n', 'a', 'l', ')'] || startsWith d ['O', 'p', 't', 'i', 'o', 'n', 'a', 'l'])
      && !startsWith t pOptional
  | _, _ => false

/-- a numeric or boolean default under a type that mentions `str` is handed to `quote()` (recorded finding:
    AttributeError, a falsy value treated as absent, a negative one left as an ast node) -/
def nonStrUnderStrType (p : Param) : Bool :=
  match p.default with
  | some (.int _ _) | some (.float _) | some (.bool _) =>
    (match needsQuoting p.typ with | .ok q => q | _ => true)
  | _ => false

/-- inputs on which the round trips are this regular (everything else is a recorded finding or
    outside the property's domain) -/
def domParamCommon (p : Param) : Bool :=
  p.typ.isSome && p.doc.isSome && !optionalProse p && !nonStrUnderStrType p &&
  (match p.default with | some v => !isCodeVal v | none => true)

def domClassParam (p : Param) : Bool :=
  domParamCommon p &&
  -- '' is the zero value of `str`; under any other str-like type it is treated as absent (truthiness test)
  (p.default != some (.str []) || p.typ == some tStr) &&
  (p.typ != some ['d', 'i', 'c', 't'])

/-! ### function / method -/

def normFuncParam (p : Param) : Param :=
  match p.default with
  | some v => if isNoneVal v then { p with default := some vNoneStr } else p
  | none => { p with default := some vNoneStr }

def domFuncParam (inlineTypes : Bool) (p : Param) : Bool :=
  domParamCommon p &&
  -- see domDocParam: "Defaults to None" in the prose of a scalar-typed entry misleads the next kind
  (match p.typ, p.default with | some t, some v => !(isScalar t && isNoneVal v) | _, _ => true) &&
  (!inlineTypes ||
    (match p.typ, p.default with
     | some t, some v => isNoneVal v || isScalar t    -- D27: an explicit default re-types Optional/Literal/... when types are inline
     | _, _ => true))

/-! ### argparse -/

def argFill (t : Str) (p : Param) : Param :=
  if isScalar t then { p with default := some (zeroOf t) }
  else match listInner t with
    | some inner => { p with default := some (zeroOf inner) }
    | none => if isLiteral t then { p with default := some (.str []) } else { p with default := some vNoneStr }

def normArgparseParam (p : Param) : Param :=
  match p.typ with
  | none => p
  | some t =>
    match p.default with
    | some v => if isNoneVal v then argFill t p else p
    | none => argFill t p

def domArgparseParam (p : Param) : Bool :=
  domParamCommon p &&
  (match p.typ with
   | some t =>
     let noneStrLike := match p.default with | some (.str s) => s == sNone || s == noneStr | _ => false
     let noneLike := match p.default with | some v => isNoneVal v | none => true
     if t == tBool then !noneLike                                           -- D28: bool without default
     else if isScalar t then !noneStrLike          -- `NoneStr` on a scalar re-types it Optional[...]; Python `None` gives the zero value
     else if isOptional t then (match optionalInner t with | some i => isScalar i | none => false)
     else if (listInner t).isSome then (listInner t != some tBool) && noneLike && !noneStrLike
     else if isLiteral t then startsWith t (pLiteral ++ ['\'']) && t.contains ',' && !noneStrLike
     else false
   | none => false)

/-! ### docstrings (on the domain where the C01 round trip is the identity up to `None` spelling) -/

def kwargsName (n : Str) : Bool := endsWith n ['k', 'w', 'a', 'r', 'g', 's']

def normDocEntry (st : DocStyle) (n : Str) (p : Param) : Param :=
  let noneOut : Val := match st with | .rest => .str sNone | _ => vNoneStr
  match p.default with
  | some v => if isNoneVal v then { p with default := some (if kwargsName n then vNoneStr else noneOut) } else p
  | none => if kwargsName n then { p with default := some vNoneStr } else p

def domDocParam (p : Param) : Bool :=
  domParamCommon p &&
  -- a scalar-typed entry whose default is none-like carries "Defaults to None" in its prose afterwards,
  -- which the next AST kind reads differently from the IR's default: left outside
  (match p.typ, p.default with | some t, some v => !(isScalar t && isNoneVal v) | _, _ => true) &&
  (match p.default with
   | some (.str s) => !s.contains '.'
   | _ => true) &&
  (match p.doc with | some d => !containsSub d ['e', 'f', 'a', 'u', 'l', 't', 's'] | none => true)

/-- numpydoc/google invent a default for every entry after a defaulted one (finding D7) -/
def noUndefaultedAfterDefaulted : List (Str × Param) → Bool → Bool
  | [], _ => true
  | (n, p) :: rest, seen =>
    if p.default.isSome then noUndefaultedAfterDefaulted rest true
    else (!seen || kwargsName n) && noUndefaultedAfterDefaulted rest seen

/-! ### whole descriptions -/

def mapParams (f : Param → Param) (ps : ODict Param) : ODict Param := ps.map fun kp => (kp.1, f kp.2)

def norm (k : Kind) (ir : IR) : IR :=
  match k with
  | .cls => { ir with params := mapParams normClassParam ir.params, returns := ir.returns.map normClassParam }
  | .func _ => { ir with params := mapParams normFuncParam ir.params }
  | .argparse =>
    { ir with params := mapParams normArgparseParam ir.params,
              returns := match ir.returns with
                | some r => if r.default.isSome then some r else none
                | none => none }
  | .doc st => { ir with params := ir.params.map fun kp => (kp.1, normDocEntry st kp.1 kp.2),
                         returns := ir.returns.map (normDocEntry .rest []) }

def dom (k : Kind) (ir : IR) : Bool :=
  match k with
  | .cls => ir.params.all (fun kp => domClassParam kp.2 && domAstParam kp.2) &&
      (ir.returns.map fun r => domClassParam r && domAstParam r).getD true
  | .func i => ir.params.all (fun kp => domFuncParam i kp.2 && domAstParam kp.2) &&
      (match ir.returns with | some r => r.typ.isSome && r.doc.isSome && r.default.isNone | none => true)
  | .argparse => ir.params.all (fun kp => domArgparseParam kp.2 && domAstParam kp.2 && !endsWith kp.1 ['k', 'w', 'a', 'r', 'g', 's']) && ir.returns.isNone
  | .doc st =>
    ir.params.all (fun kp => domDocParam kp.2) && (ir.returns.map domDocParam).getD true &&
    (match st with
     | .rest => true
     | .numpydoc => noUndefaultedAfterDefaulted (ir.params ++ (match ir.returns with | some r => [([], r)] | none => [])) false
     | .google => ir.returns.isNone && noUndefaultedAfterDefaulted ir.params false)

/-- a chain of conversions; `none` as soon as a description leaves the domain of the next kind -/
def chain : List Kind → IR → Option IR
  | [], ir => some ir
  | k :: ks, ir => if dom k ir then chain ks (norm k ir) else none

end Kinds
end Py
