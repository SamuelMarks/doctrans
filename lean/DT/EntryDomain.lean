import DT.SetNameIdem
import DT.DefaultsLemmas
import DT.DocScan
/-! The default-free domain of the docstring theorems, in one place: what a name, a line of prose and a type have to be
    (`NameOK`, `DocOK`, `TypOK`), entries as triples (name, prose, type) and the descriptions built from them (`mkIR`,
    `mkIRo`, `mkIRr`); the two passes every parser ends an entry with, `interpolate_defaults` and `_set_name_and_type`,
    leave an entry of the domain alone (`interpolate_nodefault`, `setNameAndType_plain`); then what the numpydoc / google
    round trips and the `to_docstring` chain ask in addition (`NDoc`, `TripleOK'`, `AtMargin`) and what these two round
    trips share (the text in front of the section token, the return entry). -/
namespace Py

/-- the letters that follow the ':' in the seven tokens of `restTokens` -/
def isTokLetter (c : Char) : Bool := c == 'p' || c == 'c' || c == 'i' || c == 'v' || c == 't' || c == 'r'

/-- a computable sufficient condition for `Clean restTokens`: no ':' directly followed by a token letter -/
def ncl : Str → Bool
  | [] => true
  | [_] => true
  | a :: b :: t => !(a == ':' && isTokLetter b) && ncl (b :: t)

structure NameOK (n : Str) : Prop where
  ne : n ≠ []
  noSpace : ' ' ∉ n
  noColon : ':' ∉ n
  noNl : '\n' ∉ n
  noStar : n.head? ≠ some '*'
  notKw : endsWith n "kwargs".toList = false
  notRet : n ≠ retName

structure DocOK (d : Str) : Prop where
  ne : d ≠ []
  trimmed : Trimmed d
  oneLine : '\n' ∉ d
  clean : ncl d = true
  noAnnounce : locate d phrases = none
  notOpt1 : startsWith d "(Optional)".toList = false
  notOpt2 : startsWith d "Optional".toList = false

structure TypOK (t : Str) : Prop where
  ne : t ≠ []
  trimmed : Trimmed t
  oneLine : '\n' ∉ t
  noTick : '`' ∉ t
  clean : ncl t = true
  noStars : startsWith t ['*', '*'] = false
  notGoogleOpt : endsWith t ", optional".toList = false

def mkParam (d t : Str) : Param := { doc := some d, typ := some t, default := none }
def retParam (r : Option (Str × Str)) : Option Param := r.map fun x => mkParam x.1 x.2

def RetOK (r : Option (Str × Str)) : Prop := ∀ x, r = some x → DocOK x.1 ∧ TypOK x.2

abbrev Triple := Str × Str × Str
def TripleOK (x : Triple) : Prop := NameOK x.1 ∧ DocOK x.2.1 ∧ TypOK x.2.2
def entryOf (x : Triple) : Str × Param := (x.1, mkParam x.2.1 x.2.2)

def mkIR (D : Str) (ts : List Triple) : IR := { doc := D, params := ts.map entryOf, returns := none }

/-- with the return entry `r = some (prose, type)`, or none -/
def mkIRo (D : Str) (ts : List Triple) (r : Option (Str × Str)) : IR :=
  { doc := D, params := ts.map entryOf, returns := retParam r }

def mkIRr (D : Str) (ts : List Triple) (dr tr : Str) : IR :=
  { doc := D, params := ts.map entryOf, returns := some (mkParam dr tr) }

theorem NameOK.notKwargs {n : Str} (hn : NameOK n) : (endsWith n "kwargs".toList || startsWith n ['*', '*']) = false := by
  obtain ⟨c, t, rfl⟩ := List.exists_cons_of_ne_nil hn.ne
  have : ('*' == c) = false := by simpa using fun e : '*' = c => hn.noStar (by rw [← e]; rfl)
  rw [hn.notKw, Bool.false_or, startsWith_cons_cons, this, Bool.false_and]

theorem interpolate_nodefault (p : Param) (d : Str) (hd : DocOK d) (hp : p.doc = some d) (e : Bool) :
    interpolateDefaults p e = .ok p := by
  unfold interpolateDefaults
  rw [hp]
  simp only [extract_none d hd.noAnnounce, Res.bind]
  cases p; simp_all

open SetNameIdem in
/-- on one trimmed line of prose and such a type every field function of `_set_name_and_type` (`normalised_eq`) is the
    identity -/
theorem setNameAndType_plain (n d : Str) (typ : Option Str)
    (hkw : (endsWith n "kwargs".toList || startsWith n ['*', '*']) = false) (hd : DocOK d)
    (ht : ∀ t, typ = some t → TypOK t) :
    setNameAndType (some n) { doc := some d, typ := typ, default := none } false true
      = .ok (n, { doc := some d, typ := typ, default := none }) := by
  have hD : nDoc (some d) = some d := by
    simp only [nDoc, Option.bind_some, List.isEmpty_eq_false_iff.mpr hd.ne, Bool.false_eq_true, if_false,
      unwrapProse_single d hd.oneLine hd.trimmed]
  rw [setNameAndType_eq n _ hkw rfl, normalised_eq, fieldwise, hD]
  cases typ with
  | none => rfl
  | some t =>
    have h1 : startsWith d pOpt1 = false := pOpt1_eq ▸ hd.notOpt1
    have h2 : startsWith d pOpt2 = false := pOpt2_eq ▸ hd.notOpt2
    simp only [Option.map_some, nTyp_fix (gOpt_eq ▸ (ht t rfl).notGoogleOpt), nOpt, h1, h2, Bool.or_self, Bool.false_and,
      Bool.false_eq_true, if_false]

namespace NumpyRT
open DocScan

/-- prose that `set_default_doc` leaves alone whatever `emit_default_doc` is: it does not mention "defaults" -/
def NDoc (d : Str) : Prop :=
  DocOK d ∧ containsSub d "Defaults".toList = false ∧ containsSub d "defaults".toList = false

theorem NDoc.setDefaultDoc_eq {d : Str} (hd : NDoc d) (n t : Str) (e : Bool) :
    setDefaultDoc n (mkParam d t) e = .ok (mkParam d t) := by
  unfold setDefaultDoc mkParam
  simp only [hd.2.1, hd.2.2, Bool.or_self, Bool.false_and, Bool.false_eq_true, if_false, Option.isSome_none]

/-- `TripleOK` with the prose in `NDoc`: the entries of the statements that hold for either `emit_default_doc` -/
def TripleOK' (x : Triple) : Prop := NameOK x.1 ∧ NDoc x.2.1 ∧ TypOK x.2.2

def AtMargin (n : Str) : Prop := ∀ c, n.head? = some c → isPySpace c = false

theorem AtMargin.append {t : Str} (h : AtMargin t) (hne : t ≠ []) (s : Str) : AtMargin (t ++ s) := by
  obtain ⟨c, r, rfl⟩ := List.exists_cons_of_ne_nil hne
  exact h

def mkIRr (D : Str) (ts : List Triple) (dr tr : Str) : IR :=
  { doc := D, params := ts.map entryOf, returns := some (mkParam dr tr) }

/-- a return entry of the domain, if there is one: `(prose, type)` -/
def RetOK' (r : Option (Str × Str)) : Prop := ∀ x, r = some x → NDoc x.1 ∧ TypOK x.2

theorem RetOK'.retOK {r : Option (Str × Str)} (h : RetOK' r) : RetOK r := fun x hx => ⟨(h x hx).1.1, (h x hx).2⟩

def preN (D : Str) : Str := '\n' :: D ++ ['\n', '\n', '\n']

theorem strip_preN (D : Str) (hDne : D ≠ []) (hDt : Trimmed D) : strip pyWs (preN D) = D := by
  simpa [preN] using hDt.strip_pad hDne ['\n'] ['\n', '\n', '\n'] (by decide) (by decide)

end NumpyRT
end Py
