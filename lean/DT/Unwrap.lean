import DT.Wrap
/-! C18, the other half: what the parsers do with wrapped prose. `_set_name_and_type` (word_wrap on) strips every
    line and joins the lines with one blank (`Py.unwrapProse`); on the simple class of text of `Wrap` this undoes
    `fill` (`unwrap_fill`). -/
namespace Py
namespace Wrap

def Word (x : Str) : Prop := x ≠ [] ∧ ∀ c ∈ x, pyWs.contains c = false

/-- what an emitter puts in front of a continuation line -/
def Pad (p : Str) : Prop := ∀ c ∈ p, pyWs.contains c = true ∧ c ≠ '\n'

theorem wrapGo_lines_ne (w : Nat) (ws cur : List Str) : ∀ l ∈ wrapGo w cur ws, l ≠ [] :=
  wrapGo_forall w (· ≠ []) ws cur id (fun _ _ => by simp) (fun _ _ _ _ => by simp)

theorem joined_line (l : List Str) (hne : l ≠ []) (hw : ∀ x ∈ l, Word x) :
    '\n' ∉ joinWith [' '] l ∧ Trimmed (joinWith [' '] l) := by
  obtain ⟨x, r, rfl⟩ := List.exists_cons_of_ne_nil hne
  have hx := hw x (by simp)
  have hhead := joinWith_head? [' '] x r hx.1
  refine ⟨not_mem_joinWith (by decide) fun y hy h => absurd ((hw y hy).2 _ h) (by decide), fun c hc => ?_, fun c hc => ?_⟩
  · rw [hhead] at hc
    exact hx.2 c (List.mem_of_head? hc)
  · have hz := hw _ (List.getLast_mem hne)
    rw [← List.dropLast_concat_getLast hne, joinWith_getLast? _ _ _ hz.1] at hc
    exact hz.2 c (List.mem_of_getLast? hc)

/-- **the parser's line join on indented lines**: every line loses the indentation put in front of it, and the lines
    are joined by one blank -/
theorem unwrapProse_padded (pads lines : List Str) (hlen : pads.length = lines.length) (hp : ∀ p ∈ pads, Pad p)
    (hne : lines ≠ []) (hl : ∀ l ∈ lines, '\n' ∉ l ∧ Trimmed l) :
    unwrapProse (joinWith ['\n'] (List.zipWith (· ++ ·) pads lines)) = stripRight pyWs (joinWith [' '] lines) := by
  have hnl : ∀ z ∈ List.zipWith (· ++ ·) pads lines, '\n' ∉ z := by
    intro z hz hm
    obtain ⟨i, hi, rfl⟩ := List.mem_iff_getElem.mp hz
    rw [List.getElem_zipWith] at hm
    rcases List.mem_append.mp hm with h | h
    · exact (hp _ (List.getElem_mem _) _ h).2 rfl
    · exact (hl _ (List.getElem_mem _)).1 h
  have hstrip : (List.zipWith (· ++ ·) pads lines).map (strip pyWs) = lines := by
    refine List.ext_getElem (by rw [List.length_map, List.length_zipWith, hlen, Nat.min_self]) fun i _ _ => ?_
    have hi := (hl _ (List.getElem_mem ‹i < lines.length›)).2
    rw [List.getElem_map, List.getElem_zipWith, strip,
      stripLeft_pad pyWs _ _ (fun c hc => (hp _ (List.getElem_mem _) c hc).1) hi.1, hi.stripRight_eq]
  have hzne : List.zipWith (· ++ ·) pads lines ≠ [] := fun h => hne (by rw [← hstrip, h]; rfl)
  rw [unwrapProse, splitOnChar_join '\n' _ hzne hnl, hstrip]

/-- **C18: the parser's line join undoes the wrap.** For every width `w`, every text `s` made of words separated by
    single blanks, and every indentation put in front of the lines `fill` produced, what `_set_name_and_type` reads
    back from the wrapped, indented lines is `s` itself. -/
theorem unwrap_fill (w : Nat) (s : Str) (hs : ∀ x ∈ splitOnChar ' ' s, Word x) (pads : List Str)
    (hlen : pads.length = (wrapWords w (splitOnChar ' ' s)).length) (hp : ∀ p ∈ pads, Pad p) :
    unwrapProse (joinWith ['\n'] (List.zipWith (· ++ ·) pads ((wrapWords w (splitOnChar ' ' s)).map (joinWith [' '])))) = s := by
  have hwords := splitOnChar_ne_nil ' ' s
  have hflat := wrapWords_flatten w (splitOnChar ' ' s)
  have hlne : ∀ l ∈ wrapWords w (splitOnChar ' ' s), l ≠ [] := wrapGo_lines_ne w _ []
  have hne : wrapWords w (splitOnChar ' ' s) ≠ [] := fun h => hwords (by rw [← hflat, h]; rfl)
  -- the words of a line are words of `s`, since the lines flatten to the words of `s`
  have hlines : ∀ l ∈ (wrapWords w (splitOnChar ' ' s)).map (joinWith [' ']), '\n' ∉ l ∧ Trimmed l := by
    intro l hl
    obtain ⟨ws, hws, rfl⟩ := List.mem_map.mp hl
    exact joined_line ws (hlne ws hws) fun x hx => hs x (by rw [← hflat]; exact List.mem_flatten.mpr ⟨ws, hws, hx⟩)
  rw [unwrapProse_padded pads _ (by simpa using hlen) hp (by simpa using hne) hlines,
    joinWith_flatten_groups [' '] _ hlne, hflat, join_split]
  -- the text itself is a line of words, hence trimmed
  have := joined_line (splitOnChar ' ' s) hwords hs
  rw [join_split] at this
  exact this.2.stripRight_eq

theorem unwrap_fillSimple (w : Nat) (s : Str) (hs : ∀ x ∈ splitOnChar ' ' s, Word x) :
    unwrapProse (fillSimple w s) = s := by
  have := unwrap_fill w s hs (List.replicate (wrapWords w (splitOnChar ' ' s)).length []) (by simp)
    (List.forall_mem_replicate.mpr (.inr fun _ hc => nomatch hc))
  have hz : ∀ (ls : List Str), List.zipWith (· ++ ·) (List.replicate ls.length ([] : Str)) ls = ls :=
    fun ls => List.ext_getElem (by simp) (by simp)
  have h2 := hz ((wrapWords w (splitOnChar ' ' s)).map (joinWith [' ']))
  simp only [List.length_map] at h2
  rw [h2] at this
  exact this

example : unwrapProse (fillSimple 12 "the rate of decay used".toList) = "the rate of decay used".toList := by
  rw [String.toList_ofList]; decide +kernel
example : fillSimple 12 "the rate of decay used".toList = "the rate of\ndecay used".toList := by
  rw [String.toList_ofList, String.toList_ofList]; decide +kernel

end Wrap
end Py
