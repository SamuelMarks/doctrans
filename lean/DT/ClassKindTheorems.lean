import DT.ClassKind
import DT.DefaultsLemmas
import DT.ODictLemmas
/-! C02 / C07, the merge of the annotated assignments of a class over its documented entries
    (`intermediate_repr[key][name].update(typ_default)` in `parse.class_`). Of one assignment (`mergeAttr_*`): the names
    are the old ones, with the new one appended when it is neither documented nor the return entry, and a documented
    entry keeps its prose. Of a whole class body (`mergeAll_keys`): the documented names stay where they are and no
    name is duplicated. -/
namespace Py
namespace ClassKind
open ClassAttr

def keys (ps : ODict Param) : List Str := ps.map (·.1)

theorem mergeAttr_keys (ps : ODict Param) (rets : Option Param) (n typ : Str) (v : Val) :
    keys (mergeAttr ps rets n typ v).1 =
      if n ∈ keys ps then keys ps else if n = retName then keys ps else keys ps ++ [n] := by
  unfold mergeAttr
  by_cases h : n ∈ keys ps
  · rw [if_pos ((ODict.any_key ps n).mpr h), if_pos h, keys, List.map_map]
    exact List.map_congr_left fun kv _ => by simp only [Function.comp]; split <;> rfl
  · rw [if_neg (mt (ODict.any_key ps n).mp h), if_neg h]
    by_cases hr : n = retName
    · simp [hr]
    · simp [hr, keys]

theorem mergeAttr_doc (ps : ODict Param) (rets : Option Param) (n typ : Str) (v : Val) (k : Str) (p : Param)
    (h : (k, p) ∈ ps) : ∃ q, (k, q) ∈ (mergeAttr ps rets n typ v).1 ∧ q.doc = p.doc := by
  unfold mergeAttr
  by_cases hany : ps.any (·.1 == n) = true
  · simp only [hany, if_true]
    by_cases hk : (k == n) = true
    · exact ⟨{ p with typ := some typ, default := some v }, List.mem_map.mpr ⟨(k, p), h, by simp [hk]⟩, rfl⟩
    · exact ⟨p, List.mem_map.mpr ⟨(k, p), h, by simp [hk]⟩, rfl⟩
  · simp only [hany, Bool.false_eq_true, if_false]
    by_cases hr : (n == retName) = true
    · simp only [hr, if_true]; exact ⟨p, h, rfl⟩
    · simp only [hr, Bool.false_eq_true, if_false]; exact ⟨p, by simp [h], rfl⟩

theorem mergeAttr_prefix (ps : ODict Param) (rets : Option Param) (n typ : Str) (v : Val) :
    keys ps <+: keys (mergeAttr ps rets n typ v).1 := by
  rw [mergeAttr_keys]
  split
  · exact List.prefix_refl _
  · split
    · exact List.prefix_refl _
    · exact List.prefix_append _ _

theorem mergeAttr_nodup (ps : ODict Param) (rets : Option Param) (n typ : Str) (v : Val) (h : (keys ps).Nodup) :
    (keys (mergeAttr ps rets n typ v).1).Nodup := by
  rw [mergeAttr_keys]
  split
  · exact h
  · split
    · exact h
    · rename_i hn _
      exact List.nodup_append.mpr ⟨h, by simp, by intro a ha b hb; simp at hb; subst hb; exact fun e => hn (e ▸ ha)⟩

/-- **all assignments of a class body merged in order**: the documented names are a prefix of the merged ones (none
    is lost, each keeps its position), and the merged names are pairwise different when the documented ones were (for
    ANY number of entries and attributes, whatever `get_value` made of the values) -/
theorem mergeAll_keys : ∀ (attrs : List (Str × Attr)) (ps : ODict Param) (rets : Option Param) (out : ODict Param × Option Param),
    classKindRT.mergeAll ps rets attrs = .ok out →
    (keys ps) <+: (keys out.1) ∧ ((keys ps).Nodup → (keys out.1).Nodup)
  | [], ps, rets, out, h => by
    simp only [classKindRT.mergeAll, Res.ok.injEq] at h
    subst h; exact ⟨List.prefix_refl _, id⟩
  | (n, a) :: rest, ps, rets, out, h => by
    simp only [classKindRT.mergeAll] at h
    obtain ⟨tv, _, h⟩ := Res.bind_eq_ok h
    have ih := mergeAll_keys rest (mergeAttr ps rets n tv.1 tv.2).1 (mergeAttr ps rets n tv.1 tv.2).2 out h
    exact ⟨(mergeAttr_prefix ps rets n tv.1 tv.2).trans ih.1, fun hnd => ih.2 (mergeAttr_nodup ps rets n tv.1 tv.2 hnd)⟩

/-- non-vacuity: a documented attribute, an undocumented one and the return entry, merged: the documented one keeps its
    place and prose, the undocumented one is appended, `return_type` goes to the return entry -/
example : classKindRT.mergeAll [(['a'], { doc := some ['x'] })] none
      [(['a'], ⟨['i', 'n', 't'], .const (.int false ['1'])⟩), (['b'], ⟨['s', 't', 'r'], .const (.str ['u'])⟩),
       (retName, ⟨['i', 'n', 't'], .const (.int false ['0'])⟩)] =
    .ok ([(['a'], { doc := some ['x'], typ := some ['i', 'n', 't'], default := some (.int false ['1']) }),
          (['b'], { typ := some ['s', 't', 'r'], default := some (.str ['u']) })],
         some { typ := some ['i', 'n', 't'], default := some (.int false ['0']) }) := by decide +kernel

end ClassKind
end Py
