import DT.DocScan
import DT.StrLemmas
/-! Lemmas of the scan phase of the numpydoc / google parser (`DocScan`), each about arbitrary lines: the search for the
    section token, `splitlines`, the indentation count, the line loop (a fold of `groupStep` up to the first dedented
    line, then one step at that line), the return split, and `scanPhase` on a text cut at its section token. -/
namespace Py
namespace NumpyRT
open DocScan

/-- one line of the line loop on a section without dedent: a line at indentation `fi` opens a unit, any other line
    joins the last one (the namespaces of this file are those of the theorems the checks name) -/
def groupStep (fi : Nat) (st : List (List Str)) (line : Str) : List (List Str) :=
  if lws line == fi then st ++ [[line]]
  else match st.getLast? with
    | some last => st.dropLast ++ [last ++ [line]]
    | none => st

theorem groupStep_ne_nil (fi : Nat) (st : List (List Str)) (line : Str) (h : st ≠ [] ∨ lws line = fi) :
    groupStep fi st line ≠ [] := by
  unfold groupStep
  split
  · simp
  · next hne =>
    have hst : st ≠ [] := h.resolve_right (by simpa using hne)
    simp [List.getLast?_eq_some_getLast hst]

theorem groupStep_ne (fi : Nat) (st : List (List Str)) (line : Str) (h : st ≠ []) : groupStep fi st line ≠ [] :=
  groupStep_ne_nil fi st line (Or.inl h)

theorem groupStep_flatten (fi : Nat) (st : List (List Str)) (line : Str) (h : st ≠ [] ∨ lws line = fi) :
    (groupStep fi st line).flatten = st.flatten ++ [line] := by
  unfold groupStep
  split
  · simp
  · next hne =>
    have hst : st ≠ [] := h.resolve_right (by simpa using hne)
    obtain ⟨init, last, rfl⟩ : ∃ init last, st = init ++ [last] :=
      ⟨st.dropLast, st.getLast hst, (List.dropLast_concat_getLast hst).symm⟩
    simp

theorem fold_groupStep_flatten (fi : Nat) : ∀ (body : List Str) (st : List (List Str)),
    (st ≠ [] ∨ ∀ l, body.head? = some l → lws l = fi) →
    (body.foldl (groupStep fi) st).flatten = st.flatten ++ body
  | [], st, _ => by simp
  | line :: body, st, h => by
    have h' : st ≠ [] ∨ lws line = fi := h.imp_right fun h => h line rfl
    rw [List.foldl_cons, fold_groupStep_flatten fi body _ (Or.inl (groupStep_ne_nil fi st line h')),
      groupStep_flatten fi st line h']
    simp

theorem fold_groupStep_deeper (fi : Nat) : ∀ (ls : List Str) (S : List (List Str)) (u : List Str),
    (∀ x ∈ ls, lws x ≠ fi) → ls.foldl (groupStep fi) (S ++ [u]) = S ++ [u ++ ls]
  | [], _, _, _ => by simp
  | x :: ls, S, u, h => by
    have hx : (lws x == fi) = false := by simpa using h x (by simp)
    rw [List.foldl_cons, show groupStep fi (S ++ [u]) x = S ++ [u ++ [x]] by simp [groupStep, hx],
      fold_groupStep_deeper fi ls S _ (fun y hy => h y (by simp [hy]))]
    simp

theorem fold_groupStep_units (fi : Nat) : ∀ (us : List (List Str)) (S : List (List Str)),
    (∀ u ∈ us, ∃ l ls, u = l :: ls ∧ lws l = fi ∧ ∀ x ∈ ls, lws x ≠ fi) →
    us.flatten.foldl (groupStep fi) S = S ++ us
  | [], S, _ => by simp
  | u :: us, S, h => by
    obtain ⟨l, ls, rfl, hl, hls⟩ := h u (by simp)
    rw [List.flatten_cons, List.foldl_append, List.foldl_cons,
      show groupStep fi S l = S ++ [[l]] by simp [groupStep, hl], fold_groupStep_deeper fi ls S [l] hls,
      fold_groupStep_units fi us _ (fun v hv => h v (by simp [hv]))]
    simp

theorem fold_groupStep_flat (fi : Nat) (ls : List Str) (S : List (List Str)) (h : ∀ l ∈ ls, lws l = fi) :
    ls.foldl (groupStep fi) S = S ++ ls.map ([·]) := by
  have := fold_groupStep_units fi (ls.map ([·])) S
    (List.forall_mem_map.mpr fun l hl => ⟨l, [], rfl, h l hl, fun _ hx => nomatch hx⟩)
  rwa [← List.flatMap_def, List.flatMap_singleton'] at this

end NumpyRT

namespace DocScan
open DocEmit NumpyRT

theorem findSub_eq_findFrom : findSub = findFrom := by
  funext tok s
  induction s with
  | nil => rfl
  | cons c t ih => funext i; rw [findSub, findFrom, ih]

theorem argToken_head (st : Style) : (argToken st).head? = some (match st with | .numpydoc => 'P' | .google => 'A') := by
  cases st <;> exact congrArg List.head? String.toList_ofList

theorem lws_pad (p s : Str) (hp : ∀ c ∈ p, isPySpace c = true) (hs : ∀ c, s.head? = some c → isPySpace c = false) :
    lws (p ++ s) = p.length := by
  rw [lws, List.takeWhile_append_of_pos hp]
  cases s with
  | nil => simp
  | cons c t => simp [List.takeWhile_cons_of_neg (by simpa using hs c rfl : ¬ isPySpace c = true)]

theorem lws_append_ge (p s : Str) (hp : ∀ c ∈ p, isPySpace c = true) : p.length ≤ lws (p ++ s) := by
  rw [lws, List.takeWhile_append_of_pos hp]; simp

theorem splitLines_joined (L : List Str) (k : Nat) (hL : L ≠ []) (hnl : ∀ l ∈ L, '\n' ∉ l) :
    splitLines (joinWith ['\n'] L ++ List.replicate (k + 1) '\n') = L ++ List.replicate k [] := by
  unfold splitLines
  rw [List.replicate_succ, splitOnChar_joined '\n' L _ hL hnl, splitOnChar_replicate, List.replicate_succ',
    ← List.append_assoc]
  simp only [List.getLast?_concat, List.dropLast_concat]

theorem scanLoop_end (style : Style) (lines : List Str) (fi fuel lineNo : Nat) (lp : Loop)
    (h : lines.drop lineNo = []) : scanLoop style lines fi fuel lineNo lp = .ok lp := by
  have : lines[lineNo]? = none := by
    rw [List.getElem?_eq_none_iff]; exact List.drop_eq_nil_iff.mp h
  cases fuel <;> simp [scanLoop, this]

/-- **the loop is a fold as long as no line is dedented**: over a stretch `body` of lines none of which is indented
    less than `fi`, the loop only regroups the stacker by `groupStep` and goes on behind the stretch -/
theorem scanLoop_indented (style : Style) (lines : List Str) (fi : Nat) :
    ∀ (body : List Str) (rest : List Str) (fuel lineNo : Nat) (lp : Loop),
      lines.drop lineNo = body ++ rest →
      (∀ l ∈ body, fi ≤ lws l) →
      (lp.stacker ≠ [] ∨ ∀ l, body.head? = some l → lws l = fi) →
      scanLoop style lines fi (fuel + body.length) lineNo lp =
        scanLoop style lines fi fuel (lineNo + body.length) { lp with stacker := body.foldl (groupStep fi) lp.stacker }
  | [], _, _, _, _, _, _, _ => rfl
  | line :: body, rest, fuel, lineNo, lp, hd, hind, hst => by
    obtain ⟨hget, hd'⟩ := drop_cons_get hd
    have hge : fi ≤ lws line := hind line (by simp)
    have hstep : scanLoop style lines fi (fuel + body.length + 1) lineNo lp =
        scanLoop style lines fi (fuel + body.length) (lineNo + 1) { lp with stacker := groupStep fi lp.stacker line } := by
      rw [scanLoop, hget]
      by_cases heq : lws line = fi
      · simp [groupStep, heq]
      · -- deeper than `fi`: the line joins the last unit, which exists
        have hlast := List.getLast?_eq_some_getLast (hst.resolve_right fun h => heq (h line rfl))
        have hnlt : ¬ lws line < fi := by omega
        simp [groupStep, heq, hnlt, hlast]
    rw [List.length_cons, ← Nat.add_assoc, hstep,
      scanLoop_indented style lines fi body rest fuel (lineNo + 1) _ hd' (fun l hl => hind l (by simp [hl]))
        (Or.inl (groupStep_ne_nil fi lp.stacker line (hst.imp_right fun h => h line rfl)))]
    simp [Nat.add_assoc, Nat.add_comm 1]

end DocScan

namespace NumpyRT
open DocEmit DocScan

/-- C01, the line loop of the numpydoc / google scanner: on a section without a dedented line it IS the fold of
    `groupStep` (any number of lines) -/
theorem scanLoop_fold (style : Style) (lines : List Str) (fi : Nat) :
    ∀ (fuel lineNo : Nat) (lp : Loop),
      lines.length ≤ lineNo + fuel →
      (∀ l ∈ lines.drop lineNo, fi ≤ lws l) →
      (lp.stacker ≠ [] ∨ ∀ l, lines[lineNo]? = some l → lws l = fi) →
      scanLoop style lines fi fuel lineNo lp =
        .ok { lp with stacker := (lines.drop lineNo).foldl (groupStep fi) lp.stacker } := by
  intro fuel lineNo lp hlen hind hst
  obtain ⟨k, rfl⟩ := Nat.exists_eq_add_of_le'
    (List.length_drop ▸ Nat.sub_le_iff_le_add'.mpr hlen : (lines.drop lineNo).length ≤ fuel)
  rw [scanLoop_indented style lines fi (lines.drop lineNo) [] k lineNo lp (List.append_nil _).symm hind
    (List.head?_drop ▸ hst)]
  exact scanLoop_end _ _ _ _ _ _ (by rw [← List.drop_drop, List.drop_length])

end NumpyRT

namespace DocScan
open DocEmit NumpyRT

theorem scanLoop_flatten (style : Style) (lines : List Str) (fi : Nat) :
    ∀ (fuel lineNo : Nat) (lp : Loop),
      lines.length ≤ lineNo + fuel →
      (∀ l ∈ lines.drop lineNo, fi ≤ lws l) →
      (lp.stacker ≠ [] ∨ ∀ l, lines[lineNo]? = some l → lws l = fi) →
      ∃ lp', scanLoop style lines fi fuel lineNo lp = .ok lp' ∧
        lp'.stacker.flatten = lp.stacker.flatten ++ lines.drop lineNo ∧ lp'.sc = lp.sc ∧ lp'.broke = lp.broke :=
  fun fuel lineNo lp hlen hind hst =>
    ⟨_, scanLoop_fold style lines fi fuel lineNo lp hlen hind hst,
      fold_groupStep_flatten fi _ _ (List.head?_drop ▸ hst), rfl, rfl⟩

/-- **no line of a section is dropped, duplicated or reordered by the grouping** -/
theorem scanLoop_keeps_lines (style : Style) (l0 : Str) (rest : List Str)
    (h : ∀ l ∈ rest, lws l0 ≤ lws l) (sc : Scanned) (ns : Bool) :
    ∃ lp', scanLoop style (l0 :: rest) (lws l0) ((l0 :: rest).length + 1) 0 { sc := sc, nsArgs := ns } = .ok lp' ∧
      lp'.stacker.flatten = l0 :: rest ∧ lp'.broke = false :=
  ⟨_, scanLoop_fold style _ _ _ 0 _ (by simp) (List.forall_mem_cons.mpr ⟨Nat.le_refl _, h⟩) (Or.inr (by simp)),
    by simpa using fold_groupStep_flatten (lws l0) (l0 :: rest) [] (Or.inr (by simp)), rfl⟩

theorem scanLoop_dedent_last (style : Style) (lines : List Str) (fi fuel lineNo : Nat) (lp : Loop) (line : Str)
    (hd : lines.drop lineNo = [line]) (hlt : lws line < fi) :
    scanLoop style lines fi (fuel + 1) lineNo lp =
      .ok { lp with stacker := [], broke := true, sc := setNs lp lp.stacker true } := by
  obtain ⟨hget, hd'⟩ := drop_cons_get hd
  have hlen : lines.length = lineNo + 1 := by
    have := congrArg List.length hd; simp at this; omega
  have hne : lws line ≠ fi := by omega
  rw [scanLoop, hget]
  simp [hne, hlt, hlen, hd']

/-- a dedented line followed by the return token and exactly two more lines: these two are the return lines, whatever
    their indentation (the last line is as deep as itself) -/
theorem scanLoop_dedent_ret (style : Style) (lines : List Str) (fi fuel lineNo : Nat) (lp : Loop) (line a b : Str)
    (hd : lines.drop lineNo = [line, returnToken style, a, b]) (hlt : lws line < fi) :
    scanLoop style lines fi (fuel + 1) lineNo lp =
      .ok { lp with stacker := [], broke := true, sc := { setNs lp lp.stacker true with rets := .lines [a, b] } } := by
  obtain ⟨hget, hd1⟩ := drop_cons_get hd
  obtain ⟨hget1, hd2⟩ := drop_cons_get hd1
  obtain ⟨_, hd3⟩ := drop_cons_get hd2
  obtain ⟨hget3, hd4⟩ := drop_cons_get hd3
  have hlen : lines.length = lineNo + 4 := by
    have := congrArg List.length hd; simp at this; omega
  have hb : (lws line == fi) = false := by simp; omega
  have hvia : (decide (lines.length > lineNo + 3) && (lines[lineNo + 1]? == some (returnToken style))) = true := by
    rw [hget1]; simp [hlen]
  have hcount : countWhileIndented (lws b) [b] = 1 := by simp [countWhileIndented]
  rw [scanLoop, hget]
  simp only [hb, hlt, hvia, hget3, Option.getD_some, hd3, hcount, hd2, hd4, Bool.false_eq_true, if_false, if_true,
    List.take, List.isEmpty_nil]

/-- the test `_return_parse_phase_numpydoc_and_google` makes at index `i`: units `i` and `i - 1` are `-------` and `Returns` -/
def splitsAt (st : List (List Str)) (i : Nat) : Bool :=
  st[i]?.getD [] ++ st[i - 1]?.getD [] == ["-------".toList, "Returns".toList]

theorem returnSplit_succ (st : List (List Str)) (i : Nat) :
    returnSplit st (i + 1) = if (decide (i ≥ 2) && splitsAt st i) = true then some i else returnSplit st i := rfl

theorem splitsAt_length (st : List (List Str)) (i : Nat)
    (h : (st[i]?.getD []).length + (st[i - 1]?.getD []).length ≠ 2) : splitsAt st i = false := by
  cases hb : splitsAt st i with
  | false => rfl
  | true =>
    have := congrArg List.length (eq_of_beq hb)
    simp at this; omega

theorem splitsAt_append (A B : List (List Str)) (i : Nat) :
    splitsAt (A ++ B) (A.length + (i + 1)) = splitsAt B (i + 1) := by
  rw [splitsAt, splitsAt, ← Nat.add_assoc, Nat.add_sub_cancel, Nat.add_sub_cancel, Nat.add_assoc,
    List.getElem?_append_right (Nat.le_add_right _ _), List.getElem?_append_right (Nat.le_add_right _ _),
    Nat.add_sub_cancel_left, Nat.add_sub_cancel_left]

theorem returnSplit_none_of (st : List (List Str)) : ∀ k, (∀ i, 2 ≤ i → i < k → splitsAt st i = false) →
    returnSplit st k = none
  | 0, _ => rfl
  | k + 1, h => by
    rw [returnSplit_succ, returnSplit_none_of st k (fun i h2 hk => h i h2 (by omega))]
    by_cases h2 : 2 ≤ k
    · simp [h k h2 (by omega)]
    · simp [h2]

theorem returnSplit_some_of (st : List (List Str)) (i : Nat) (hi : 2 ≤ i) (hit : splitsAt st i = true) :
    ∀ k, i < k → (∀ j, i < j → j < k → splitsAt st j = false) → returnSplit st k = some i
  | 0, hk, _ => absurd hk (by omega)
  | k + 1, hk, h => by
    rw [returnSplit_succ]
    by_cases hik : i = k
    · subst hik; simp [hi, hit]
    · rw [h k (by omega) (by omega), returnSplit_some_of st i hi hit k (by omega) (fun j h1 h2 => h j h1 (by omega))]
      simp

/-- what `scanPhase` does with the loop's final state -/
def scanTail (style : Style) (lp : Loop) : Res Scanned :=
  let (stacker, sc) : List (List Str) × Scanned :=
    if retsEmpty lp.sc.rets && style == .numpydoc then
      match returnSplit lp.stacker lp.stacker.length with
      | some i => (lp.stacker.take (i - 1), { lp.sc with rets := .units (lp.stacker.drop (i + 1)) })
      | none => (lp.stacker, lp.sc)
    else (lp.stacker, lp.sc)
  if stacker.isEmpty then .ok sc else .ok (setNs { lp with sc := sc } stacker false)

theorem scanTail_nil (style : Style) (lp : Loop) (h : lp.stacker = []) : scanTail style lp = .ok lp.sc := by
  simp [scanTail, h, returnSplit]

theorem scanTail_args (style : Style) (lp : Loop) (hne : lp.stacker ≠ []) (hns : lp.nsArgs = true)
    (hrs : returnSplit lp.stacker lp.stacker.length = none) :
    scanTail style lp = .ok { lp.sc with args := lp.stacker } := by
  simp [scanTail, hrs, hne, setNs, hns]

theorem scanTail_split (lp : Loop) (A B : List (List Str)) (r d : List Str) (hst : lp.stacker = A ++ r :: d :: B)
    (hA : A ≠ []) (hre : retsEmpty lp.sc.rets = true) (hns : lp.nsArgs = true)
    (hrs : returnSplit lp.stacker lp.stacker.length = some (A.length + 1)) :
    scanTail .numpydoc lp = .ok { lp.sc with args := A, rets := .units B } := by
  have e1 : lp.stacker.take A.length = A := by rw [hst]; simp
  have e2 : lp.stacker.drop (A.length + 1 + 1) = B := by
    rw [hst, Nat.add_assoc]; exact List.drop_length_add_append 2
  simp [scanTail, hre, hrs, e1, e2, hA, setNs, hns]

theorem scanPhase_section (st : Style) (P body : Str) (c : Char) (hc : (argToken st).head? = some c) (hP : c ∉ P)
    (hsep : otherSeparators (P ++ argToken st ++ '\n' :: body) = false) (l0 : Str) (lines : List Str)
    (hl : splitLines body = lines) (h0 : lines.head? = some l0) :
    scanPhase st (P ++ argToken st ++ '\n' :: body) =
      (scanLoop st lines (lws l0) (lines.length + 1) 0 { sc := { doc := strip pyWs P }, nsArgs := true }).bind
        (scanTail st) := by
  obtain ⟨ls, rfl⟩ := List.head?_eq_some_iff.mp h0
  have hfind : findSub (argToken st) (P ++ argToken st ++ '\n' :: body) 0 = some P.length := by
    rw [findSub_eq_findFrom, findFrom_skip (argToken st) c hc P _ 0 hP, Nat.zero_add]
  have htake : (P ++ argToken st ++ '\n' :: body).take P.length = P := by simp [List.append_assoc]
  have hdrop : (P ++ argToken st ++ '\n' :: body).drop (P.length + (argToken st).length + 1) = body := by
    rw [← List.length_append]; exact List.drop_length_add_append 1
  unfold scanPhase
  simp only [hsep, Bool.false_eq_true, if_false, hfind, htake, hdrop, hl]
  rfl

end DocScan
end Py
