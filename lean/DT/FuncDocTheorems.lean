import DT.CleandocTheorems
import DT.ToDocstringTheorems
/-! C03 / C02: what `ast.get_docstring` hands to the parser for a function / class written by doctrans - `to_docstring`
    followed by `inspect.cleandoc` - on the default-free domain: the margin the emitter put in front of every line is
    removed again, whatever the indentation level. -/
namespace Py
namespace FuncDoc
open ToDocstring NumpyRT

def contentLines (D : Str) (ts : List Triple) : List Str :=
  D :: [] :: (ts.flatMap fun x => [docLine x.1 x.2.1, typLine x.1 x.2.2, []]) ++ [[]]

def chunkOf (b : Bool) (ts : List Triple) : List Str := ts.flatMap fun x => entryLines b x ++ [[]]

/-- the lines of the docstring without their margin; `contentLines` is the case `b = true`, by unfolding -/
def contentLinesOf (b : Bool) (D : Str) (ts : List Triple) : List Str := D :: [] :: chunkOf b ts ++ [[]]

theorem chunkOf_cons (b : Bool) (x : Triple) (r : List Triple) : chunkOf b (x :: r) = (entryLines b x ++ [[]]) ++ chunkOf b r := by
  simp [chunkOf]

theorem blockOf_lines (level : Nat) (b : Bool) (x : Triple) :
    blockOf level b x = joinWith (['\n'] ++ tabs level) (entryLines b x ++ [[]]) := by
  cases b <;> simp [entryLines, blockOf, joinWith, List.append_assoc]

/-- joining the blocks is joining their lines -/
theorem blocks_as_lines (level : Nat) (b : Bool) (ts : List Triple) :
    joinWith (['\n'] ++ tabs level) (ts.map (blockOf level b)) = joinWith (['\n'] ++ tabs level) (chunkOf b ts) := by
  rw [chunkOf, List.flatMap_def, ← joinWith_flatten_groups _ _ (List.forall_mem_map.mpr fun _ _ => by simp), List.map_map]
  exact congrArg _ (List.map_congr_left fun x _ => blockOf_lines level b x)

theorem text_as_lines_both (b : Bool) (D : Str) (ts : List Triple) (hne : ts ≠ []) (level : Nat) :
    (['\n'] ++ tabs level ++ D ++ ['\n'] ++ tabs level ++
      (['\n'] ++ tabs level ++ joinWith (['\n'] ++ tabs level) (ts.map (blockOf level b)) ++ ['\n'] ++ tabs level)) =
    joinWith ['\n'] ([] :: (contentLinesOf b D ts).map (pad (4 * level))) := by
  have hfun : ((fun x => ['\n'] ++ x) ∘ pad (4 * level)) = fun c => ['\n'] ++ tabs level ++ c := by
    funext c; simp [Function.comp, pad, tabs_eq]
  have hC : chunkOf b ts ≠ [] := by
    obtain ⟨x, r, rfl⟩ := List.exists_cons_of_ne_nil hne
    simp [chunkOf, entryLines]
  -- the margin in front of every line becomes part of the separator
  rw [joinWith_cons_flat, List.nil_append, List.map_map, hfun,
    show contentLinesOf b D ts = D :: [] :: (chunkOf b ts ++ [[]]) from rfl, ← joinWith_prefix _ _ (List.cons_ne_nil _ _),
    joinWith_cons_cons, joinWith_cons_ne _ _ _ (by simp), joinWith_append _ _ _ hC (List.cons_ne_nil _ _), blocks_as_lines]
  simp [joinWith, List.append_assoc]

theorem text_as_lines (D : Str) (ts : List Triple) (hne : ts ≠ []) (level : Nat) :
    (['\n'] ++ tabs level ++ D ++ ['\n'] ++ tabs level ++
      (['\n'] ++ tabs level ++ joinWith (['\n'] ++ tabs level) (ts.map (blockOf level true)) ++ ['\n'] ++ tabs level)) =
    joinWith ['\n'] ([] :: (contentLines D ts).map (pad (4 * level))) :=
  text_as_lines_both true D ts hne level

/-- tabs go through `expandtabs`, which is not modelled -/
def NoTab (x : Triple) : Prop := '\t' ∉ x.1 ∧ '\t' ∉ x.2.1 ∧ '\t' ∉ x.2.2

theorem content_docLine (n d : Str) (hn : NameOK n) (hd : DocOK d) (h1 : '\t' ∉ n) (h2 : '\t' ∉ d) : Content (docLine n d) :=
  ⟨docLine_no (by decide) hn.noNl hd.oneLine, docLine_no (by decide) h1 h2, fun a ha => by cases ha; decide⟩

theorem content_typLine (n t : Str) (hn : NameOK n) (ht : TypOK t) (h1 : '\t' ∉ n) (h2 : '\t' ∉ t) : Content (typLine n t) :=
  ⟨typLine_no (by decide) hn.noNl ht.oneLine, typLine_no (by decide) h1 h2, fun a ha => by cases ha; decide⟩

theorem content_lines (b : Bool) (x : Triple) (hx : BlockOK x) (ht : NoTab x) : ∀ c ∈ entryLines b x, Content c := by
  obtain ⟨⟨hn, hd, hty⟩, _⟩ := hx
  obtain ⟨t1, t2, t3⟩ := ht
  intro c hc
  cases b <;> simp only [entryLines, List.mem_cons, List.mem_nil_iff, or_false, if_true, if_false, Bool.false_eq_true] at hc
  · exact hc ▸ content_docLine x.1 x.2.1 hn hd.1 t1 t2
  · rcases hc with rfl | rfl
    · exact content_docLine x.1 x.2.1 hn hd.1 t1 t2
    · exact content_typLine x.1 x.2.2 hn hty t1 t3

/-- **what the parser is handed for a function / class doctrans wrote** (the separating indentation on; types in the
    docstring, `b = true`, or in the signature): `inspect.cleandoc` of the text `to_docstring` builds is the content
    lines without the margin and without the blank lines at either end, at EVERY indentation level -/
theorem cleandoc_toDocstring_both (b : Bool) (D : Str) (ts : List Triple) (hne : ts ≠ []) (hok : ∀ x ∈ ts, BlockOK x)
    (hDne : D ≠ []) (hDt : Trimmed D) (hDnl : '\n' ∉ D) (hDm : AtMargin D) (hDtab : '\t' ∉ D)
    (hsepD : DocScan.otherSeparators D = false) (hsepP : ∀ x ∈ ts, DocScan.otherSeparators x.2.1 = false)
    (htab : ∀ x ∈ ts, NoTab x) (edd : Bool) (level : Nat) :
    ((toDocstring (mkIR D ts) edd level b true).bind cleandoc) =
      .ok (joinWith ['\n'] (trimBlank ([] :: contentLinesOf b D ts))) := by
  rw [toDocstring_text D ts hne hok hDne hDt hDnl hsepD hsepP edd level b true]
  simp only [Res.bind, if_true]
  rw [text_as_lines_both b D ts hne level]
  apply cleandoc_uniform
  · have hnil : Content ([] : Str) := ⟨by simp, by simp, by intro a ha; simp at ha⟩
    intro c hc
    simp only [contentLinesOf, chunkOf, List.mem_cons, List.mem_append, List.mem_flatMap, List.mem_nil_iff, or_false] at hc
    rcases hc with (rfl | rfl | ⟨x, hx, hcx | rfl⟩) | rfl
    · exact ⟨hDnl, hDtab, fun a ha => hDm a ha⟩
    · exact hnil
    · exact content_lines b x (hok x hx) (htab x hx) c hcx
    · exact hnil
    · exact hnil
  · exact ⟨D, by simp [contentLinesOf], hDne⟩

theorem cleandoc_toDocstring (D : Str) (ts : List Triple) (hne : ts ≠ []) (hok : ∀ x ∈ ts, BlockOK x)
    (hDne : D ≠ []) (hDt : Trimmed D) (hDnl : '\n' ∉ D) (hDm : AtMargin D) (hDtab : '\t' ∉ D)
    (hsepD : DocScan.otherSeparators D = false) (hsepP : ∀ x ∈ ts, DocScan.otherSeparators x.2.1 = false)
    (htab : ∀ x ∈ ts, NoTab x) (edd : Bool) (level : Nat) :
    ((toDocstring (mkIR D ts) edd level true true).bind cleandoc) =
      .ok (joinWith ['\n'] (trimBlank ([] :: contentLines D ts))) :=
  cleandoc_toDocstring_both true D ts hne hok hDne hDt hDnl hDm hDtab hsepD hsepP htab edd level

end FuncDoc
end Py
