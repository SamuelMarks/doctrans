/-! Alignment of signature defaults with arguments: the padding + pairing step of `parse.function`
    (after fix 8e27f03) and the `defaults_from_params` step of `emit.function`. CPython stores the
    defaults of the LAST `m` positional arguments only, and one (possibly `None`) entry per keyword-only
    argument. -/
namespace Py
namespace Sig

variable {A D : Type}

/-- `[None] * diff + defaults` -/
def padDefaults (n : Nat) (ds : List (Option D)) : List (Option D) :=
  List.replicate (n - ds.length) none ++ ds

/-- `func_arg2param(args[idx], default=defaults[idx]) for idx in range(len(args))` -/
def pairArgs (args : List A) (ds : List (Option D)) : List (A × Option D) :=
  args.zip (padDefaults args.length ds)

/-- what Python means: argument `i` of `n` has the default `ds[i - (n - m)]` when `i ≥ n - m`, none otherwise -/
def pyDefault (n : Nat) (ds : List (Option D)) (i : Nat) : Option D :=
  if i < n - ds.length then none else (ds[i - (n - ds.length)]?).join

theorem padDefaults_length (n : Nat) (ds : List (Option D)) (h : ds.length ≤ n) :
    (padDefaults n ds).length = n := by
  simp [padDefaults]; omega

theorem padDefaults_get (n : Nat) (ds : List (Option D)) (i : Nat) :
    ((padDefaults n ds)[i]?).join = pyDefault n ds i := by
  unfold padDefaults pyDefault
  by_cases h : i < n - ds.length
  · simp [h, List.getElem?_append_left]
  · have h' : n - ds.length ≤ i := Nat.le_of_not_lt h
    rw [List.getElem?_append_right (by simpa using h')]
    simp [h]

theorem pairArgs_length (args : List A) (ds : List (Option D)) (h : ds.length ≤ args.length) :
    (pairArgs args ds).length = args.length := by
  simp [pairArgs, padDefaults_length args.length ds h]

/-- **every argument is paired with its own default** (the trailing `m` arguments with the `m` stored defaults,
    the others with none) -/
theorem pairArgs_get (args : List A) (ds : List (Option D)) (h : ds.length ≤ args.length) (i : Nat)
    (hi : i < args.length) :
    (pairArgs args ds)[i]? = some (args[i], pyDefault args.length ds i) := by
  have hi' : i < (padDefaults args.length ds).length := by rw [padDefaults_length _ _ h]; exact hi
  rw [pairArgs, List.getElem?_zip_eq_some, ← padDefaults_get, List.getElem?_eq_getElem hi']
  exact ⟨List.getElem?_eq_getElem hi, rfl⟩

/-- keyword-only arguments: `kw_defaults` has one entry per argument, nothing is padded or shifted -/
theorem pairArgs_full (args : List A) (ds : List (Option D)) (h : ds.length = args.length) :
    pairArgs args ds = args.zip ds := by
  simp [pairArgs, padDefaults, h]

/-- the code before fix 8e27f03 padded on the right: `defaults + [None] * diff` -/
def pairArgsOld (args : List A) (ds : List (Option D)) : List (A × Option D) :=
  args.zip (ds ++ List.replicate (args.length - ds.length) none)

/-- witness of the repaired defect: `def f(a, b=1)` gave `a` the default of `b` -/
theorem pairArgsOld_shifts : pairArgsOld ["a", "b"] [some 1] = [("a", some 1), ("b", none)]
    ∧ pairArgs ["a", "b"] [some 1] = [("a", none), ("b", some 1)] := by decide +kernel

/-- `emit.function`: one default per emitted argument (`None` for an entry without one), so the emitted
    signature pairs every argument with its own default again -/
theorem emit_then_pair (ps : List (A × D)) :
    pairArgs (ps.map (·.1)) (ps.map fun p => some p.2) = ps.map fun p => (p.1, some p.2) := by
  rw [pairArgs_full _ _ (by simp), List.zip_map']

/-! ### the default slot of an argument (fix 2b8e4d5 in `RewriteAtQuery.visit_FunctionDef`) -/

/-- `pos - (len(args.args) - len(defaults))` computed over the integers, none when negative (the argument has no
    default). With positional-only parameters that carry defaults `len(defaults)` exceeds `len(args.args)` and the
    difference is NEGATIVE: the slot then lies to the right of the position. -/
def slotOf (n m pos : Nat) : Option Nat := if pos + m < n then none else some (pos + m - n)

/-- without positional-only defaults (`len(defaults) ≤ len(args.args)`) it is the formula as Python writes it -/
theorem slotOf_le (n m pos : Nat) (h : m ≤ n) : slotOf n m pos = if pos < n - m then none else some (pos - (n - m)) := by
  simp only [Nat.sub_sub_right pos h, Nat.lt_sub_iff_add_lt]; rfl

theorem pyDefault_set_slot (n : Nat) (ds : List (Option D)) (s : Nat) (x : Option D) (hs : s < ds.length) (i : Nat) :
    pyDefault n (ds.set s x) i = if i = n - ds.length + s then x else pyDefault n ds i := by
  unfold pyDefault
  rw [List.length_set, List.getElem?_set]
  generalize n - ds.length = off
  by_cases h : i < off
  · rw [if_pos h, if_pos h, if_neg (Nat.ne_of_lt (Nat.lt_of_lt_of_le h (Nat.le_add_right off s)))]
  · rw [if_neg h, if_neg h]
    by_cases e : i = off + s
    · rw [if_pos e, if_pos (by rw [e, Nat.add_sub_cancel_left]), if_pos hs]; rfl
    · rw [if_neg e, if_neg fun e' => e (by rw [e', Nat.add_sub_cancel' (Nat.le_of_not_lt h)])]

/-- **patching the slot of argument `pos` changes the default Python pairs with that argument, and no other**: `p`
    positional-only parameters come before the `n` ordinary ones, the `m = ds.length ≤ p + n` stored defaults belong to
    the LAST `m` of these `p + n`; `i` is a position among all `p + n`. -/
theorem pyDefault_set (p n : Nat) (ds : List (Option D)) (pos slot : Nat) (v : D) (hm : ds.length ≤ p + n) (hp : pos < n)
    (hs : slotOf n ds.length pos = some slot) (i : Nat) (hi : i < p + n) :
    pyDefault (p + n) (ds.set slot (some v)) i = if i = p + pos then some v else pyDefault (p + n) ds i := by
  unfold slotOf at hs
  split at hs
  · cases hs
  · cases hs
    rw [pyDefault_set_slot _ _ _ _ (by omega), show p + n - ds.length + (pos + ds.length - n) = p + pos by omega]

/-- positional-only parameters with defaults: `def connect(host, port=5432, /, timeout=10.0, mode="slow")` has
    `len(args.args) - len(defaults) = 2 - 3 < 0`; `timeout` (position 0) owns slot 1, not slot 0 (which is `port`'s) -/
theorem slot_posonly_witness : slotOf 2 3 0 = some 1 ∧ slotOf 2 3 1 = some 2 := by decide

/-- the old code used the position among the arguments as the slot (counted from the left): with a leading argument
    that has no default, the default of ANOTHER argument was overwritten -/
theorem old_slot_witness :
    -- def setup(flag, momentum=1): addressing `flag` (position 0) wrote slot 0 = the default of `momentum`
    pyDefault 2 ([some 1].set 0 (some 7)) 1 = some 7 ∧ slotOf 2 1 0 = none := by decide

end Sig
end Py
