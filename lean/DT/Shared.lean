import DT.Kinds
/-! C13: conversions that share one interface description. Every emitter is a function
    `IR → Artefact × IR` (what it returns, and what the caller's description looks like afterwards). -/
namespace Py
namespace Shared

def runShared {S A : Type} (s : S) : List (S → A × S) → List A
  | [] => []
  | f :: fs => (f s).1 :: runShared (f s).2 fs

def runFresh {S A : Type} (s : S) (fs : List (S → A × S)) : List A := fs.map fun f => (f s).1

/-- **C13**: if no call changes the description it is given, then ANY sequence of calls — any length,
    any order, any repetition — gives every call the result it would give on a fresh copy -/
theorem shared_eq_fresh {S A : Type} : ∀ (fs : List (S → A × S)) (s : S),
    (∀ f ∈ fs, ∀ t, (f t).2 = t) → runShared s fs = runFresh s fs
  | [], _, _ => rfl
  | f :: fs, s, h => by
    rw [runShared, h f (by simp) s, shared_eq_fresh fs s fun g hg => h g (by simp [hg])]
    rfl

/-- the observable part of an artefact that matters here: the names it declares and whether it has a
    return entry (enough to tell the artefacts of the witness apart) -/
structure Art where
  names : List Str
  hasReturn : Bool
deriving DecidableEq, Repr

def artOf (ir : IR) : Art := { names := ir.params.map (·.1), hasReturn := ir.returns.isSome }

/-- after fix 79e7812 every emitter works on a copy: the caller's description is untouched -/
def emitPure (ir : IR) : Art × IR := (artOf ir, ir)

/-- `emit.class_` as it was (D10): `params.update(returns); del returns` on the caller's description -/
def emitClassOld (ir : IR) : Art × IR :=
  match ir.returns with
  | some r =>
    let ir' : IR := { ir with params := ir.params ++ [(retName, r)], returns := none }
    (artOf ir', ir')
  | none => (artOf ir, ir)

theorem emitPure_pure (ir : IR) : (emitPure ir).2 = ir := rfl

/-- the repaired emitter, called any number of times on one shared description, gives what it gives on fresh copies -/
theorem pure_histories (n : Nat) (ir : IR) :
    runShared ir (List.replicate n emitPure) = runFresh ir (List.replicate n emitPure) :=
  shared_eq_fresh _ ir (fun f hf t => by rw [List.eq_of_mem_replicate hf]; rfl)

def wIR : IR := { doc := ['d'], params := [(['a'], {})], returns := some {} }

/-- D10, kernel-checked: class then function on one shared description — the function artefact gains a
    `return_type` argument that a fresh copy does not have -/
theorem old_class_then_function_differs :
    runShared wIR [emitClassOld, emitPure] ≠ runFresh wIR [emitClassOld, emitPure] := by decide

end Shared
end Py
