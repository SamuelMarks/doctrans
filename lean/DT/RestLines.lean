import DT.EntryDomain
/-! The lines of a ReST entry as `emit_param_str` writes them: `restLine`, of which the `:param` and the `:type` line
    (`docLine`, `typLine`, spelt from the tokens the parser looks for) are instances; no character gets into one that is
    not in its parts, and `indent_all_but_first` leaves one alone. Used by the ReST round trip and by the `to_docstring` chain. -/
namespace Py

def tokParam : Str := [':', 'p', 'a', 'r', 'a', 'm']
def tokType : Str := [':', 't', 'y', 'p', 'e']
def tokReturn : Str := [':', 'r', 'e', 't', 'u', 'r', 'n']
def tokRtype : Str := [':', 'r', 't', 'y', 'p', 'e']
def bt3 : Str := ['`', '`', '`']

theorem ticks_trimmed (t : Str) : Trimmed (bt3 ++ t ++ bt3) :=
  Trimmed.of_ends '`' '`' (by simp [bt3]) (by rw [List.getLast?_append]; simp [bt3]) (by decide) (by decide)

def docLine (n d : Str) : Str := tokParam ++ ' ' :: n ++ [':', ' '] ++ d
def typLine (n t : Str) : Str := tokType ++ ' ' :: n ++ [':', ' '] ++ bt3 ++ t ++ bt3

/-- the line `:key: value` of `emit_param_str` -/
def restLine (k v : Str) : Str := [':'] ++ k ++ [':', ' '] ++ v

theorem docLine_eq (n d : Str) : docLine n d = restLine (kParam ++ n) d := rfl

theorem typLine_eq (n t : Str) : typLine n t = restLine (kType ++ n) (bt3 ++ t ++ bt3) := by
  rw [typLine, restLine, ← List.append_assoc _ _ bt3, ← List.append_assoc _ bt3 t]; rfl

/-- the lines of an entry, the `:type` line written (`b = true`) or not -/
def entryLines (b : Bool) (x : Triple) : List Str := docLine x.1 x.2.1 :: if b then [typLine x.1 x.2.2] else []

theorem restLine_no {c : Char} {k v : Str} (hc : c ∉ [':', ' ']) (hk : c ∉ k) (hv : c ∉ v) : c ∉ restLine k v := by
  simp only [restLine, List.mem_append, List.mem_cons, List.mem_nil_iff, not_or, or_false] at hc ⊢
  exact ⟨⟨⟨hc.1, hk⟩, hc.1, hc.2⟩, hv⟩

theorem docLine_no {c : Char} {n d : Str} (hc : c ∉ ':' :: ' ' :: kParam) (hn : c ∉ n) (hd : c ∉ d) : c ∉ docLine n d := by
  simp only [List.mem_cons, not_or] at hc
  rw [docLine_eq]
  exact restLine_no (by simp [hc.1, hc.2.1]) (List.not_mem_append hc.2.2 hn) hd

theorem typLine_no {c : Char} {n t : Str} (hc : c ∉ ':' :: ' ' :: '`' :: kType) (hn : c ∉ n) (ht : c ∉ t) : c ∉ typLine n t := by
  simp only [List.mem_cons, not_or] at hc
  rw [typLine_eq]
  exact restLine_no (by simp [hc.1, hc.2.1]) (List.not_mem_append hc.2.2.2 hn) (by simp [bt3, hc.2.2.1, ht])

theorem indentAllButFirst_restLine (k v : Str) (hk : '\n' ∉ k) (hv : '\n' ∉ v) (hne : v ≠ [])
    (hlast : ∀ c, v.getLast? = some c → pyWs.contains c = false) :
    indentAllButFirst (restLine k v) = restLine k v := by
  have hc := List.getLast?_eq_some_getLast hne
  exact indentAllButFirst_single _ (restLine_no (by decide) hk hv)
    (Trimmed.of_ends ':' _ rfl (by rw [restLine, List.getLast?_append, hc]; rfl) (by decide) (hlast _ hc))
    (List.cons_ne_nil _ _)

theorem indent_doc (k d : Str) (hk : '\n' ∉ k) (hd : DocOK d) : indentAllButFirst (restLine k d) = restLine k d :=
  indentAllButFirst_restLine k d hk hd.oneLine hd.ne hd.trimmed.2

theorem indent_typ (k t : Str) (hk : '\n' ∉ k) (ht : TypOK t) :
    indentAllButFirst (restLine k (bt3 ++ t ++ bt3)) = restLine k (bt3 ++ t ++ bt3) :=
  indentAllButFirst_restLine k _ hk (by simp [bt3, ht.oneLine]) (by simp [bt3]) (ticks_trimmed t).2

theorem NameOK.nl_key {n : Str} (hn : NameOK n) (k : Str) (hk : '\n' ∉ k) : '\n' ∉ k ++ n :=
  List.not_mem_append hk hn.noNl

/-- the `:type` / `:rtype:` line as `emit_param_str` builds it -/
theorem restLine_ticks (K t : Str) :
    [':'] ++ K ++ [':', ' ', '`', '`', '`'] ++ t ++ ['`', '`', '`'] = restLine K (bt3 ++ t ++ bt3) := by
  simp [restLine, bt3]

end Py
