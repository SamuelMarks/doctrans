import DT.FuncDoc
import DT.DocScanTheorems
/-! `inspect.cleandoc` (what `ast.get_docstring` hands to the parsers) removes a UNIFORM margin: when the first line
    is empty and every line after it is the same number of blanks followed by either nothing or text that starts with a
    visible character, the result is those texts, joined by line breaks, without the blank lines at either end. This is the shape
    `to_docstring` writes (`ToDocstring.toDocstring_text`). -/
namespace Py
namespace FuncDoc
open DocScan

def pad (m : Nat) (c : Str) : Str := List.replicate m ' ' ++ c

/-- a line of the docstring without its margin; no tab: `expandtabs` is not modelled -/
structure Content (c : Str) : Prop where
  noNl : '\n' ∉ c
  noTab : '\t' ∉ c
  visible : ∀ a, c.head? = some a → isPySpace a = false

/-- `FuncDoc.leading` is `DocScan.lws` under another name (same body) -/
theorem leading_pad (m : Nat) (c : Str) (h : ∀ a, c.head? = some a → isPySpace a = false) : leading (pad m c) = m :=
  (lws_pad (List.replicate m ' ') c (List.forall_mem_replicate.mpr (.inr rfl)) h).trans List.length_replicate

theorem blank_pad_nil (m : Nat) : isBlankLine (pad m []) = true := by
  rw [isBlankLine, pad, List.append_nil, List.all_eq_true]
  exact List.forall_mem_replicate.mpr (.inr rfl)

theorem blank_pad_cons (m : Nat) (a : Char) (t : Str) (h : isPySpace a = false) : isBlankLine (pad m (a :: t)) = false := by
  unfold isBlankLine pad
  rw [List.all_eq_false]
  exact ⟨a, by simp, by simp [h]⟩

theorem drop_pad (m : Nat) (c : Str) : (pad m c).drop m = c := by
  unfold pad
  exact List.drop_left' (by simp)

theorem margins_pad (m : Nat) : ∀ (cs : List Str), (∀ c ∈ cs, Content c) →
    (((cs.map (pad m)).filter fun l => !isBlankLine l).map leading) = List.replicate ((cs.filter fun c => !c.isEmpty).length) m
  | [], _ => rfl
  | c :: cs, h => by
    have ih := margins_pad m cs (fun x hx => h x (by simp [hx]))
    have hc := h c (by simp)
    cases c with
    | nil =>
      simp only [List.map_cons, List.filter_cons, blank_pad_nil, Bool.not_true, Bool.false_eq_true, if_false, List.isEmpty_nil]
      exact ih
    | cons a t =>
      have hv := hc.visible a rfl
      simp only [List.map_cons, List.filter_cons, blank_pad_cons m a t hv, Bool.not_false, if_true, List.isEmpty_cons,
        List.length_cons, List.replicate_succ, leading_pad m (a :: t) hc.visible]
      rw [ih]

def trimBlank (cs : List Str) : List Str := dropLeadingBlank (dropLeadingBlank cs.reverse).reverse

theorem dropLeadingBlank_cons_ne (a : Str) (r : List Str) (h : a ≠ []) : dropLeadingBlank (a :: r) = a :: r := by
  cases a with
  | nil => exact absurd rfl h
  | cons _ _ => simp [dropLeadingBlank]

/-- the shape of `to_docstring`'s text -/
theorem trimBlank_mid (a z : Str) (M : List Str) (ha : a ≠ []) (hz : z ≠ []) :
    trimBlank (([] : Str) :: (a :: M ++ [z]) ++ [[], []]) = a :: M ++ [z] := by
  have dlb_nil : ∀ r : List Str, dropLeadingBlank (([] : Str) :: r) = dropLeadingBlank r := fun r => by simp [dropLeadingBlank]
  have hrev : (([] : Str) :: (a :: M ++ [z]) ++ [[], []]).reverse = [] :: [] :: z :: (([] : Str) :: a :: M).reverse := by simp
  have hback : (z :: (([] : Str) :: a :: M).reverse).reverse = ([] : Str) :: (a :: M ++ [z]) := by simp
  rw [trimBlank, hrev, dlb_nil, dlb_nil, dropLeadingBlank_cons_ne _ _ hz, hback, dlb_nil]
  exact dropLeadingBlank_cons_ne _ _ ha

/-- **`cleandoc` removes a uniform margin** -/
theorem cleandoc_uniform (m : Nat) (cs : List Str) (hc : ∀ c ∈ cs, Content c) (hne : ∃ c ∈ cs, c ≠ []) :
    cleandoc (joinWith ['\n'] ([] :: cs.map (pad m))) = .ok (joinWith ['\n'] (trimBlank ([] :: cs))) := by
  have hpad : ∀ x : Char, x ≠ ' ' → (∀ c ∈ cs, x ∉ c) → ∀ l ∈ ([] : Str) :: cs.map (pad m), x ∉ l := by
    intro x hx hcs l hl
    rcases List.mem_cons.mp hl with rfl | hl
    · simp
    · obtain ⟨c, hcm, rfl⟩ := List.mem_map.mp hl
      exact List.not_mem_append (fun h => hx (List.eq_of_mem_replicate h)) (hcs c hcm)
  have hsplit := splitOnChar_join '\n' (([] : Str) :: cs.map (pad m)) (by simp)
    (hpad '\n' (by decide) fun c h => (hc c h).noNl)
  have hnotab : (joinWith ['\n'] (([] : Str) :: cs.map (pad m))).contains '\t' = false := by
    have : '\t' ∉ joinWith ['\n'] (([] : Str) :: cs.map (pad m)) :=
      not_mem_joinWith (by decide) (hpad '\t' (by decide) fun c h => (hc c h).noTab)
    simpa using this
  unfold cleandoc
  simp only [hnotab, Bool.false_eq_true, if_false, hsplit]
  -- every line that is not blank has margin `m`, so the minimum `cleandoc` takes is `m`
  rw [margins_pad m cs hc]
  have hk : 0 < (cs.filter fun c => !c.isEmpty).length := List.length_filter_pos_iff.mpr
    (hne.imp fun _ h => ⟨h.1, (Bool.not_eq_true' _).mpr (List.isEmpty_eq_false_iff.mpr h.2)⟩)
  rw [List.min?_replicate_of_pos hk]
  have hdrop : (cs.map (pad m)).map (fun l => l.drop m) = cs := by simp [Function.comp_def, drop_pad]
  simp only [hdrop, stripLeft, trimBlank]

end FuncDoc
end Py
