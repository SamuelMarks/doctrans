import DT.Locate
/-! Theorems about the model of `RewriteAtQuery` the driver runs (DT/Locate.lean): the transformer is the identity once it has replaced,
    and on every sub-tree the search does not touch (the frame property used by C11/C14/C15). -/
namespace PyAst

/- `touchNode search n`, with its companions for fields and items: the transformer can act on `n` or below it — `n`
    carries the searched location and is not a string constant, or is a `FunctionDef` whose location is the search minus
    its last segment (`visit_FunctionDef` never descends, so nothing below a `FunctionDef` counts). -/
mutual
  def touchNode (search : List Atom) : Node → Bool
    | .mk k fs l _ _ =>
      if k == "FunctionDef" then l == some (search.take (search.length - 1))
      else (l == some search && k != "Constant") || touchFields search fs
  def touchFields (search : List Atom) : List (String × Field) → Bool
    | [] => false
    | (_, f) :: rest => touchField search f || touchFields search rest
  def touchField (search : List Atom) : Field → Bool
    | .atom _ => false
    | .missing => false
    | .node n => touchNode search n
    | .list items => touchItems search items
  def touchItems (search : List Atom) : List Item → Bool
    | [] => false
    | it :: rest => touchItem search it || touchItems search rest
  def touchItem (search : List Atom) : Item → Bool
    | .node n => touchNode search n
    | .atom _ => false
end

theorem visitFunctionDef_id (st : RW) (node : Node)
    (h : (!st.replaced && node.loc == some (st.search.take (st.search.length - 1))) = false) :
    visitFunctionDef st node = (st, node) := by
  have : visitFunctionDefRaw st node = (st, node) := by
    unfold visitFunctionDefRaw
    exact if_neg (by simp [h])
  unfold visitFunctionDef
  rw [this]

/-- What one step of the traversal guarantees. `touched` is the value of the `touch…` function on `x`. -/
def Step {α : Type} (st : RW) (touched : Bool) (x : α) (r : RW × α) : Prop :=
  r.1.search = st.search ∧ ((st.replaced = true ∨ touched = false) → r = (st, x))

theorem Step.id {α : Type} {st : RW} {t : Bool} {x : α} : Step st t x (st, x) := ⟨rfl, fun _ => rfl⟩

theorem Step.map {α β : Type} {st : RW} {t t' : Bool} {x : α} {r : RW × α} (f : α → β) (h : Step st t x r)
    (ht : t' = false → t = false) : Step st t' (f x) (r.1, f r.2) :=
  ⟨h.1, fun hi => by rw [h.2 (hi.imp_right ht)]⟩

/-- `t₂` is a function of the search because the second step's hypothesis speaks of `r₁.1.search` -/
theorem Step.seq {α β γ : Type} {st : RW} {t₁ : Bool} {t₂ : List Atom → Bool} {x : α} {y : β} {r₁ : RW × α} {r₂ : RW × β}
    (f : α → β → γ) (h₁ : Step st t₁ x r₁) (h₂ : Step r₁.1 (t₂ r₁.1.search) y r₂) :
    Step st (t₁ || t₂ st.search) (f x y) (r₂.1, f r₁.2 r₂.2) := by
  refine ⟨h₂.1.trans h₁.1, fun hi => ?_⟩
  have e₁ := h₁.2 (hi.imp_right fun h => (Bool.or_eq_false_iff.mp h).1)
  subst e₁
  rw [h₂.2 (hi.imp_right fun h => (Bool.or_eq_false_iff.mp h).2)]

mutual
  theorem visit_step (st : RW) : ∀ n, Step st (touchNode st.search n) n (visit st n)
    | .mk k fs l i d => by
      unfold visit touchNode
      by_cases he : st.err.isSome = true
      · rw [if_pos he]; exact Step.id
      rw [if_neg he]
      by_cases hk : (k == "FunctionDef") = true
      · rw [if_pos hk, if_pos hk]
        exact ⟨rfl, fun h => visitFunctionDef_id st _ (by rcases h with h | h <;> simp [h, Node.loc])⟩
      rw [if_neg hk, if_neg hk]
      split
      · rename_i hc
        refine ⟨rfl, fun h => absurd hc ?_⟩
        rcases h with h | h
        · simp [h]
        · simp [(Bool.or_eq_false_iff.mp h).1, Bool.and_assoc]
      · exact (visitFields_step st fs).map (Node.mk k · l i d) fun h => (Bool.or_eq_false_iff.mp h).2
  theorem visitFields_step (st : RW) : ∀ fs, Step st (touchFields st.search fs) fs (visitFields st fs)
    | [] => Step.id
    | (k, f) :: rest =>
      (visitField_step st f).seq (t₂ := (touchFields · rest)) (fun f' r' => (k, f') :: r') (visitFields_step _ rest)
  theorem visitField_step (st : RW) : ∀ f, Step st (touchField st.search f) f (visitField st f)
    | .atom _ => Step.id
    | .missing => Step.id
    | .node n => (visit_step st n).map Field.node id
    | .list its => (visitItems_step st its).map Field.list id
  theorem visitItems_step (st : RW) : ∀ its, Step st (touchItems st.search its) its (visitItems st its)
    | [] => Step.id
    | it :: rest =>
      (visitItem_step st it).seq (t₂ := (touchItems · rest)) List.cons (visitItems_step _ rest)
  theorem visitItem_step (st : RW) : ∀ it, Step st (touchItem st.search it) it (visitItem st it)
    | .node n => (visit_step st n).map Item.node id
    | .atom _ => Step.id
end

/- **Frame**: a sub-tree the search does not touch is returned unchanged, whatever the state. -/
theorem visit_untouched (st : RW) : ∀ n, touchNode st.search n = false → visit st n = (st, n) :=
  fun n h => (visit_step st n).2 (.inr h)
theorem visitFields_untouched (st : RW) : ∀ fs, touchFields st.search fs = false → visitFields st fs = (st, fs) :=
  fun fs h => (visitFields_step st fs).2 (.inr h)
theorem visitField_untouched (st : RW) : ∀ f, touchField st.search f = false → visitField st f = (st, f) :=
  fun f h => (visitField_step st f).2 (.inr h)
theorem visitItems_untouched (st : RW) : ∀ its, touchItems st.search its = false → visitItems st its = (st, its) :=
  fun its h => (visitItems_step st its).2 (.inr h)
theorem visitItem_untouched (st : RW) : ∀ it, touchItem st.search it = false → visitItem st it = (st, it) :=
  fun it h => (visitItem_step st it).2 (.inr h)

/- **No second replacement**: once `replaced` is set the transformer is the identity. -/
theorem visit_replaced (st : RW) (h : st.replaced = true) : ∀ n, visit st n = (st, n) :=
  fun n => (visit_step st n).2 (.inl h)
theorem visitFields_replaced (st : RW) (h : st.replaced = true) : ∀ fs, visitFields st fs = (st, fs) :=
  fun fs => (visitFields_step st fs).2 (.inl h)
theorem visitField_replaced (st : RW) (h : st.replaced = true) : ∀ f, visitField st f = (st, f) :=
  fun f => (visitField_step st f).2 (.inl h)
theorem visitItems_replaced (st : RW) (h : st.replaced = true) : ∀ its, visitItems st its = (st, its) :=
  fun its => (visitItems_step st its).2 (.inl h)
theorem visitItem_replaced (st : RW) (h : st.replaced = true) : ∀ it, visitItem st it = (st, it) :=
  fun it => (visitItem_step st it).2 (.inl h)

/- the transformer's search is invariant (the Python never assigns `self.search`) -/
theorem visit_search (st : RW) : ∀ n, (visit st n).1.search = st.search := fun n => (visit_step st n).1
theorem visitFields_search (st : RW) : ∀ fs, (visitFields st fs).1.search = st.search := fun fs => (visitFields_step st fs).1
theorem visitField_search (st : RW) : ∀ f, (visitField st f).1.search = st.search := fun f => (visitField_step st f).1
theorem visitItems_search (st : RW) : ∀ its, (visitItems st its).1.search = st.search := fun its => (visitItems_step st its).1
theorem visitItem_search (st : RW) : ∀ it, (visitItem st it).1.search = st.search := fun it => (visitItem_step st it).1

/-- **a string constant is never what gets replaced** (fix 8971591), whatever location it carries and whatever the
    search -/
theorem visit_constant_kept (st : RW) (fs : List (String × Field)) (l : Option (List Atom)) (i : Option Int) (d : Option Item) :
    (visit st (.mk "Constant" fs l i d)).2.kind = "Constant" ∧ (visit st (.mk "Constant" fs l i d)).2.loc = l := by
  unfold visit
  split
  · exact ⟨rfl, rfl⟩
  · rw [if_neg (by decide), if_neg (by simp)]
    exact ⟨rfl, rfl⟩

/-- D25 in miniature (`x = 'a'` before `def meth(a=1)`): the constant carries exactly the searched location -/
example :
    let c : Node := .mk "Constant" [] (some [.str "meth", .str "a"]) none none
    let st : RW := { search := [.str "meth", .str "a"], repl := .mk "arg" [] none none none }
    (visit st c).2.kind = "Constant" ∧ st.replaced = false ∧ c.loc = some st.search :=
  ⟨(visit_constant_kept _ _ _ _ _).1, rfl, rfl⟩

theorem visitItems_length (st : RW) : ∀ its, (visitItems st its).2.length = its.length
  | [] => rfl
  | it :: rest => congrArg (· + 1) (visitItems_length (visitItem st it).1 rest)

/-- **C11/C14/C15 frame at statement-list level**: in any statement list the transformer walks,
    every statement the search does not touch comes back at the same index, unchanged; the
    list keeps its length (`visitItems_length`). -/
theorem visitItems_frame (st : RW) : ∀ (its : List Item) (j : Nat) (it : Item),
    its[j]? = some it → touchItem st.search it = false → (visitItems st its).2[j]? = some it
  | x :: rest, 0, it, h, ht => by
    cases (Option.some.inj h : x = it)
    simp only [visitItems, visitItem_untouched st x ht, List.getElem?_cons_zero]
  | x :: rest, j + 1, it, h, ht =>
    visitItems_frame (visitItem st x).1 rest j it h ((visitItem_search st x).symm ▸ ht)

/-! ### several replacements in a row (sync_properties applies one pair after the other) -/

/-- one `RewriteAtQuery(search, repl).visit` over a statement list, with a fresh transformer -/
def rewriteOnce (pr : List Atom × Node) (items : List Item) : List Item :=
  (visitItems { search := pr.1, repl := pr.2 } items).2

/-- `sync_properties` with several pairs, on the statement list: a fresh transformer per pair, each over the result of the
    last (the driver's operation `sync_props` folds `visit` in the same way and adds the error handling) -/
def rewriteMany (prs : List (List Atom × Node)) (items : List Item) : List Item :=
  prs.foldl (fun acc pr => rewriteOnce pr acc) items

theorem rewriteMany_cons (pr : List Atom × Node) (prs : List (List Atom × Node)) (items : List Item) :
    rewriteMany (pr :: prs) items = rewriteMany prs (rewriteOnce pr items) := rfl

/-- **C14 frame**: after ANY number of pairs, a statement that none of the searches touches is still at
    its index, unchanged (so everything that was not addressed has an identical syntax tree) -/
theorem rewriteMany_frame : ∀ (prs : List (List Atom × Node)) (items : List Item) (j : Nat) (it : Item),
    items[j]? = some it → (∀ pr ∈ prs, touchItem pr.1 it = false) → (rewriteMany prs items)[j]? = some it :=
  fun prs _ j it h ht => List.foldlRecOn (motive := fun acc => acc[j]? = some it) prs _ h fun acc hacc pr hpr =>
    visitItems_frame _ acc j it hacc (ht pr hpr)

theorem rewriteMany_length (prs : List (List Atom × Node)) : ∀ (items : List Item),
    (rewriteMany prs items).length = items.length :=
  fun items => List.foldlRecOn (motive := fun acc => acc.length = items.length) prs _ rfl fun acc hacc _ _ =>
    (visitItems_length _ acc).trans hacc

end PyAst
