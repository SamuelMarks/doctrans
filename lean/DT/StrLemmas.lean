import DT.Rest
/-! Lemmas of the `str` primitives of `Str.lean` / `Rest.lean` (`startswith`, `in`, `strip`, `find`, slices, `split`,
    `join`, `replace`, `indent_all_but_first`), each about arbitrary texts and arbitrary character sets.
    `stripLeft cs` is `dropWhile cs.contains` (`stripLeft_eq_dropWhile`), so its facts are core's, and `stripRight` is its
    mirror image; `splitOnChar` matches on its own recursive call, and `splitOnChar_cons_sep` / `splitOnChar_cons_ne` are the two
    equations through which the other lemmas use it; `joinWith` has the closed form `joinWith_cons_flat`. -/
namespace Py

theorem drop_cons_get {α} {l : List α} {n : Nat} {a : α} {r : List α} (h : l.drop n = a :: r) :
    l[n]? = some a ∧ l.drop (n + 1) = r := by
  refine ⟨by simpa [List.head?_drop] using congrArg List.head? h, ?_⟩
  simpa [List.tail_drop] using congrArg List.tail h

theorem startsWith_append_self (p s : Str) : startsWith (p ++ s) p = true :=
  List.isPrefixOf_iff_prefix.mpr (List.prefix_append p s)

@[simp] theorem startsWith_cons_cons (c x : Char) (s p : Str) :
    startsWith (c :: s) (x :: p) = (x == c && startsWith s p) := rfl

@[simp] theorem startsWith_nil_right (s : Str) : startsWith s [] = true := by cases s <;> rfl

theorem endsWith_iff (s p : Str) : endsWith s p = true ↔ p <:+ s := by
  rw [endsWith, List.isPrefixOf_iff_prefix, List.reverse_prefix]

theorem containsSub_iff (p : Str) : ∀ s : Str, containsSub s p = true ↔ p <:+: s
  | [] => by simp [containsSub]
  | c :: t => by
    rw [containsSub, Bool.or_eq_true, List.isPrefixOf_iff_prefix, containsSub_iff p t, List.infix_cons_iff]

theorem casefold_append (a b : Str) : casefold (a ++ b) = casefold a ++ casefold b := List.map_append

theorem findCI_some_prefix (n : Str) : ∀ (s : Str) (i : Nat), findCI n s = some i → casefold n <+: casefold (s.drop i)
  | [], i, h => by
    cases n with
    | nil => simp [casefold]
    | cons a n => simp [findCI] at h
  | c :: t, i, h => by
    unfold findCI at h
    split at h
    · cases h; exact List.isPrefixOf_iff_prefix.mp ‹_›
    · obtain ⟨j, hj, rfl⟩ := Option.map_eq_some_iff.mp h
      exact findCI_some_prefix n t j hj

/-- no case-insensitive occurrence of `n` in `s` starts at an index below `k` -/
def NoOccBefore (n s : Str) (k : Nat) : Prop :=
  ∀ i, i < k → (casefold n).isPrefixOf (casefold (s.drop i)) = false

theorem findCI_at (n s : Str) (k : Nat) (hocc : (casefold n).isPrefixOf (casefold (s.drop k)) = true)
    (h : NoOccBefore n s k) : findCI n s = some k := by
  induction k generalizing s with
  | zero =>
    cases s with
    | nil =>
      cases n with
      | nil => rfl
      | cons a n => cases hocc
    | cons c t => exact if_pos hocc
  | succ k ih =>
    have h0 : (casefold n).isPrefixOf (casefold s) = false := h 0 (Nat.succ_pos k)
    cases s with
    | nil => rw [List.drop_nil, h0] at hocc; cases hocc
    | cons c t =>
      rw [findCI, if_neg (Bool.eq_false_iff.mp h0), ih t hocc fun i hi => h (i + 1) (Nat.succ_lt_succ hi)]
      rfl

theorem findCI_none_of_sub (n s w : Str) (hw : w <+: casefold n) (hs : containsSub (casefold s) w = false) :
    findCI n s = none := by
  cases h : findCI n s with
  | none => rfl
  | some i =>
    have hp := findCI_some_prefix n s i h
    have e : casefold (s.drop i) = (casefold s).drop i := List.map_drop
    have : w <:+: casefold s := (hw.trans (e ▸ hp)).isInfix.trans (List.drop_suffix i _).isInfix
    rw [(containsSub_iff w _).mpr this] at hs
    cases hs

theorem containsSub_false_of_not_mem (c : Char) (s p : Str) (hp : c ∈ p) (hs : c ∉ s) : containsSub s p = false :=
  Bool.eq_false_iff.mpr fun h => hs (((containsSub_iff p s).mp h).subset hp)

theorem stripLeft_eq_dropWhile (cs : Str) : ∀ s : Str, stripLeft cs s = s.dropWhile cs.contains
  | [] => rfl
  | c :: t => by
    rw [stripLeft, List.dropWhile_cons, stripLeft_eq_dropWhile cs t]

theorem stripLeft_keep (cs s : Str) (h : ∀ c, s.head? = some c → cs.contains c = false) : stripLeft cs s = s := by
  cases s with
  | nil => rfl
  | cons c t => rw [stripLeft, h c rfl]; rfl

theorem stripRight_keep (cs s : Str) (h : ∀ c, s.getLast? = some c → cs.contains c = false) :
    stripRight cs s = s := by
  rw [stripRight, stripLeft_keep cs s.reverse fun c hc => h c (List.head?_reverse ▸ hc), List.reverse_reverse]

theorem strip_keep (chars txt : Str) (h1 : ∀ c, txt.head? = some c → chars.contains c = false)
    (h2 : ∀ c, txt.getLast? = some c → chars.contains c = false) : strip chars txt = txt := by
  rw [strip, stripLeft_keep chars txt h1, stripRight_keep chars txt h2]

theorem stripLeft_append_left (cs p s : Str) (hp : ∀ c ∈ p, cs.contains c = true) :
    stripLeft cs (p ++ s) = stripLeft cs s := by
  rw [stripLeft_eq_dropWhile, stripLeft_eq_dropWhile, List.dropWhile_append_of_pos hp]

theorem stripRight_append_right (cs s r : Str) (hr : ∀ c ∈ r, cs.contains c = true) :
    stripRight cs (s ++ r) = stripRight cs s := by
  rw [stripRight, stripRight, List.reverse_append, stripLeft_append_left cs _ _ fun c hc => hr c (List.mem_reverse.mp hc)]

theorem stripLeft_pad (cs p s : Str) (hp : ∀ c ∈ p, cs.contains c = true)
    (hs : ∀ c, s.head? = some c → cs.contains c = false) : stripLeft cs (p ++ s) = s := by
  rw [stripLeft_append_left cs p s hp, stripLeft_keep cs s hs]

theorem stripRight_pad (cs s r : Str) (hr : ∀ c ∈ r, cs.contains c = true)
    (hs : ∀ c, s.getLast? = some c → cs.contains c = false) : stripRight cs (s ++ r) = s := by
  rw [stripRight_append_right cs s r hr, stripRight_keep cs s hs]

theorem stripLeft_head (cs s : Str) (c : Char) (h : (stripLeft cs s).head? = some c) : cs.contains c = false := by
  rw [stripLeft_eq_dropWhile] at h
  have := List.head?_dropWhile_not cs.contains s
  rw [h] at this
  simpa using this

theorem stripRight_last (cs s : Str) (c : Char) (h : (stripRight cs s).getLast? = some c) : cs.contains c = false := by
  rw [stripRight, List.getLast?_reverse] at h
  exact stripLeft_head cs _ c h

theorem stripLeft_suffix (cs s : Str) : stripLeft cs s <:+ s := by
  rw [stripLeft_eq_dropWhile]; exact List.dropWhile_suffix _

theorem stripRight_prefix (cs s : Str) : stripRight cs s <+: s := by
  have := List.reverse_prefix.mpr (stripLeft_suffix cs s.reverse)
  rwa [List.reverse_reverse] at this

theorem stripLeft_append_right (cs : Str) (r : Str) (hr : ∀ c, r.head? = some c → cs.contains c = false) :
    ∀ s : Str, stripLeft cs (s ++ r) = stripLeft cs s ++ r
  | [] => stripLeft_keep cs r hr
  | x :: s => by
    rw [List.cons_append, stripLeft, stripLeft, stripLeft_append_right cs r hr s]
    cases cs.contains x <;> rfl

theorem stripRight_cons (cs : Str) (c : Char) (t : Str) (hw : cs.contains c = false) :
    stripRight cs (c :: t) = c :: stripRight cs t := by
  rw [stripRight, List.reverse_cons, stripLeft_append_right cs [c] fun _ e => Option.some.inj e ▸ hw, List.reverse_append]
  rfl

theorem strip_infix (cs s : Str) : strip cs s <:+: s :=
  (stripRight_prefix cs _).isInfix.trans (stripLeft_suffix cs s).isInfix

theorem strip_pad (cs l s r : Str) (hl : ∀ c ∈ l, cs.contains c = true) (hr : ∀ c ∈ r, cs.contains c = true)
    (h1 : ∀ c, s.head? = some c → cs.contains c = false) (h2 : ∀ c, s.getLast? = some c → cs.contains c = false)
    (hne : s ≠ []) : strip cs (l ++ s ++ r) = s := by
  have hh : ∀ c, (s ++ r).head? = some c → cs.contains c = false := by
    cases s with
    | nil => exact absurd rfl hne
    | cons a t => exact h1
  rw [strip, List.append_assoc, stripLeft_pad cs l _ hl hh, stripRight_pad cs s r hr h2]

/-- neither the first nor the last character is white space: what `strip()` keeps -/
def Trimmed (s : Str) : Prop := (∀ c, s.head? = some c → pyWs.contains c = false) ∧
                                (∀ c, s.getLast? = some c → pyWs.contains c = false)

theorem Trimmed.of_ends {s : Str} (c1 c2 : Char) (h1 : s.head? = some c1) (h2 : s.getLast? = some c2)
    (w1 : pyWs.contains c1 = false) (w2 : pyWs.contains c2 = false) : Trimmed s :=
  ⟨fun c hc => by rw [h1] at hc; cases hc; exact w1, fun c hc => by rw [h2] at hc; cases hc; exact w2⟩

theorem Trimmed.strip_eq {s : Str} (h : Trimmed s) : strip pyWs s = s := strip_keep pyWs s h.1 h.2

theorem Trimmed.stripRight_eq {s : Str} (h : Trimmed s) : stripRight pyWs s = s := stripRight_keep pyWs s h.2

theorem Trimmed.strip_pad {s : Str} (h : Trimmed s) (hne : s ≠ []) (l r : Str)
    (hl : ∀ c ∈ l, pyWs.contains c = true) (hr : ∀ c ∈ r, pyWs.contains c = true) :
    strip pyWs (l ++ s ++ r) = s := Py.strip_pad pyWs l s r hl hr h.1 h.2 hne

theorem stripLeft_all_ws (ws : Str) (hws : ∀ c ∈ ws, pyWs.contains c = true) : stripLeft pyWs ws = [] := by
  simpa [stripLeft] using stripLeft_append_left pyWs ws [] hws

theorem takeWhile_append_stop (p : Char → Bool) (a : Str) (c : Char) (r : Str)
    (ha : ∀ x ∈ a, p x = true) (hc : p c = false) : (a ++ c :: r).takeWhile p = a := by
  rw [List.takeWhile_append_of_pos ha, List.takeWhile_cons_of_neg (by simp [hc]), List.append_nil]

theorem dropWhile_append_stop (p : Char → Bool) (a : Str) (c : Char) (r : Str)
    (ha : ∀ x ∈ a, p x = true) (hc : p c = false) : (a ++ c :: r).dropWhile p = c :: r := by
  rw [List.dropWhile_append_of_pos ha, List.dropWhile_cons_of_neg (by simp [hc])]

theorem takeWhile_ne_stop (c : Char) (a r : Str) (h : c ∉ a) : (a ++ c :: r).takeWhile (· != c) = a :=
  takeWhile_append_stop _ a c r (fun x hx => by simpa using fun e : x = c => h (e ▸ hx)) (by simp)

theorem dropWhile_ne_stop (c : Char) (a r : Str) (h : c ∉ a) : (a ++ c :: r).dropWhile (· != c) = c :: r :=
  dropWhile_append_stop _ a c r (fun x hx => by simpa using fun e : x = c => h (e ▸ hx)) (by simp)

theorem findFrom_skip (tok : Str) (c : Char) (hc : tok.head? = some c) (a r : Str) (i : Nat) (h : c ∉ a) :
    findFrom tok (a ++ tok ++ r) i = some (i + a.length) := by
  obtain ⟨tk, rfl⟩ := List.head?_eq_some_iff.mp hc
  induction a generalizing i with
  | nil =>
    have : (c :: tk).isPrefixOf (c :: (tk ++ r)) = true := startsWith_append_self (c :: tk) r
    simp only [List.nil_append, List.cons_append, findFrom, this, if_true, List.length_nil, Nat.add_zero]
  | cons x a ih =>
    have hx : (c == x) = false := beq_false_of_ne (List.ne_of_not_mem_cons h)
    rw [List.cons_append, List.cons_append, findFrom, List.isPrefixOf_cons_cons, hx, Bool.false_and, if_neg (by simp),
      ih (i + 1) (List.not_mem_of_not_mem_cons h), List.length_cons]
    congr 1; omega

theorem pyNormIdx_nat (len n : Nat) (h : n ≤ len) : pyNormIdx len (n : Int) = n := by
  unfold pyNormIdx
  have h1 : ¬ ((n : Int) < 0) := by omega
  have h2 : ¬ (n > len) := by omega
  simp only [h1, if_false, Int.toNat_natCast, h2]

theorem pyFind_single (c : Char) (pfx a r : Str) (h : c ∉ a) :
    pyFind (pfx ++ (a ++ c :: r)) [c] (pfx.length : Int) = ((pfx.length + a.length : Nat) : Int) := by
  have := findFrom_skip [c] c rfl a r pfx.length h
  rw [List.append_assoc] at this
  rw [pyFind, pyNormIdx_nat _ _ (by simp), List.drop_left]
  simp only [List.cons_append, List.nil_append] at this
  rw [this]

theorem pySlice_mid (pfx mid sfx : Str) :
    pySlice (pfx ++ (mid ++ sfx)) (pfx.length : Int) ((pfx.length + mid.length : Nat) : Int) = mid := by
  rw [pySlice, pyNormIdx_nat _ _ (by simp), pyNormIdx_nat _ _ (by simp)]
  cases mid with
  | nil => simp
  | cons m ms =>
    have : ¬ (pfx.length + (m :: ms).length ≤ pfx.length) := by simp
    simp only [this, if_false, List.drop_left, Nat.add_sub_cancel_left, List.take_left]

theorem pyFrom_at (pfx sfx : Str) : pyFrom (pfx ++ sfx) (pfx.length : Int) = sfx := by
  rw [pyFrom, pyNormIdx_nat _ _ (by simp), List.drop_left]

theorem splitOnChar_ne_nil (sep : Char) : ∀ s : Str, splitOnChar sep s ≠ []
  | [] => by simp [splitOnChar]
  | c :: t => by
    rw [splitOnChar]
    split
    · simp
    · split <;> simp

theorem splitOnChar_cons_sep (sep : Char) (r : Str) : splitOnChar sep (sep :: r) = [] :: splitOnChar sep r := by
  rw [splitOnChar]
  cases hs : splitOnChar sep r with
  | nil => exact absurd hs (splitOnChar_ne_nil sep r)
  | cons h rr => simp

theorem splitOnChar_cons_ne (sep c : Char) (t : Str) (hc : c ≠ sep) :
    ∃ h r, splitOnChar sep t = h :: r ∧ splitOnChar sep (c :: t) = (c :: h) :: r := by
  cases hs : splitOnChar sep t with
  | nil => exact absurd hs (splitOnChar_ne_nil sep t)
  | cons h r =>
    have : (c == sep) = false := by simpa using hc
    exact ⟨h, r, rfl, by rw [splitOnChar, hs]; simp [this]⟩

theorem splitOnChar_line (sep : Char) : ∀ (a r : Str), sep ∉ a → splitOnChar sep (a ++ sep :: r) = a :: splitOnChar sep r
  | [], r, _ => splitOnChar_cons_sep sep r
  | c :: a, r, h => by
    obtain ⟨x, y, e1, e2⟩ := splitOnChar_cons_ne sep c (a ++ sep :: r) (List.ne_of_not_mem_cons h).symm
    rw [splitOnChar_line sep a r (List.not_mem_of_not_mem_cons h)] at e1
    cases e1
    exact e2

theorem splitOnChar_no_sep (sep : Char) : ∀ s : Str, sep ∉ s → splitOnChar sep s = [s]
  | [], _ => rfl
  | c :: t, h => by
    obtain ⟨x, y, e1, e2⟩ := splitOnChar_cons_ne sep c t (List.ne_of_not_mem_cons h).symm
    rw [splitOnChar_no_sep sep t (List.not_mem_of_not_mem_cons h)] at e1
    cases e1
    exact e2

theorem splitOnChar_pieces (sep : Char) : ∀ (s : Str), ∀ l ∈ splitOnChar sep s, sep ∉ l
  | [] => by simp [splitOnChar]
  | c :: t => by
    have ih := splitOnChar_pieces sep t
    by_cases hc : c = sep
    · subst hc
      rw [splitOnChar_cons_sep]
      exact List.forall_mem_cons.mpr ⟨List.not_mem_nil, ih⟩
    · obtain ⟨x, y, e1, e2⟩ := splitOnChar_cons_ne sep c t hc
      rw [e1] at ih
      rw [e2]
      exact List.forall_mem_cons.mpr
        ⟨fun hm => (List.mem_cons.mp hm).elim (fun e => hc e.symm) (ih x List.mem_cons_self),
          fun l hl => ih l (List.mem_cons_of_mem _ hl)⟩

theorem joinWith_single (sep x : Str) : joinWith sep [x] = x := rfl

theorem joinWith_cons_cons (sep x y : Str) (r : List Str) :
    joinWith sep (x :: y :: r) = x ++ sep ++ joinWith sep (y :: r) := rfl

theorem joinWith_cons_ne (sep x : Str) (xs : List Str) (h : xs ≠ []) :
    joinWith sep (x :: xs) = x ++ sep ++ joinWith sep xs := by
  cases xs with
  | nil => exact absurd rfl h
  | cons _ _ => rfl

theorem joinWith_cons_flat (g : Str) (l : Str) : ∀ (ls : List Str), joinWith g (l :: ls) = l ++ (ls.map (g ++ ·)).flatten
  | [] => by simp [joinWith]
  | x :: xs => by
    rw [joinWith_cons_cons, joinWith_cons_flat g x xs]
    simp [List.append_assoc]

theorem not_mem_joinWith {c : Char} {g : Str} {L : List Str} (hg : c ∉ g) (hL : ∀ l ∈ L, c ∉ l) : c ∉ joinWith g L := by
  cases L with
  | nil => simp [joinWith]
  | cons l ls =>
    rw [joinWith_cons_flat]
    simp only [List.mem_append, List.mem_flatten, List.mem_map, not_or, not_exists, not_and]
    exact ⟨hL l (by simp), by rintro _ ⟨x, hx, rfl⟩; exact List.not_mem_append hg (hL x (by simp [hx]))⟩

theorem joinWith_append (sep : Str) (l1 l2 : List Str) (h1 : l1 ≠ []) (h2 : l2 ≠ []) :
    joinWith sep (l1 ++ l2) = joinWith sep l1 ++ sep ++ joinWith sep l2 := by
  obtain ⟨x, xs, rfl⟩ := List.exists_cons_of_ne_nil h1
  obtain ⟨y, ys, rfl⟩ := List.exists_cons_of_ne_nil h2
  rw [List.cons_append, joinWith_cons_flat, joinWith_cons_flat, joinWith_cons_flat]
  simp [List.append_assoc]

theorem joinWith_prefix (g : Str) : ∀ (L : List Str), L ≠ [] → g ++ joinWith g L = (L.map (g ++ ·)).flatten
  | [], h => absurd rfl h
  | l :: ls, _ => by rw [joinWith_cons_flat]; simp

theorem joinWith_head? (g x : Str) (r : List Str) (hx : x ≠ []) : (joinWith g (x :: r)).head? = x.head? := by
  obtain ⟨a, t, rfl⟩ := List.exists_cons_of_ne_nil hx
  rw [joinWith_cons_flat]; rfl

theorem joinWith_getLast? (g : Str) (L : List Str) (z : Str) (hz : z ≠ []) : (joinWith g (L ++ [z])).getLast? = z.getLast? := by
  by_cases hL : L = []
  · rw [hL]; rfl
  · rw [joinWith_append g L [z] hL (by simp), joinWith_single, List.getLast?_append,
      Option.or_of_isSome (List.getLast?_isSome.mpr hz)]

theorem joinWith_flatten_groups (sep : Str) : ∀ (ls : List (List Str)), (∀ l ∈ ls, l ≠ []) →
    joinWith sep (ls.map (joinWith sep)) = joinWith sep ls.flatten
  | [], _ => rfl
  | [l], _ => by simp [joinWith]
  | l :: m :: r, h => by
    have hm : (m :: r).flatten ≠ [] := by
      obtain ⟨a, b, e⟩ := List.exists_cons_of_ne_nil (h m (by simp))
      simp [e]
    rw [List.map_cons, joinWith_cons_ne _ _ _ (by simp), joinWith_flatten_groups sep (m :: r) fun x hx => h x (by simp [hx]),
      List.flatten_cons (l := l), joinWith_append sep l _ (h l (by simp)) hm]

theorem joinWith_append_sep (sep : Str) : ∀ (l : List Str), l ≠ [] → joinWith sep l ++ sep = (l.map (· ++ sep)).flatten
  | [], h => absurd rfl h
  | [x], _ => by simp [joinWith]
  | x :: y :: r, _ => by
    rw [joinWith_cons_cons, List.append_assoc, joinWith_append_sep sep (y :: r) (by simp)]
    simp

theorem splitOnChar_joined (sep : Char) : ∀ (L : List Str) (R : Str), L ≠ [] → (∀ l ∈ L, sep ∉ l) →
    splitOnChar sep (joinWith [sep] L ++ sep :: R) = L ++ splitOnChar sep R
  | [], _, h, _ => absurd rfl h
  | [x], R, _, hl => splitOnChar_line sep x R (hl x (by simp))
  | x :: y :: r, R, _, hl => by
    rw [joinWith_cons_cons, List.append_assoc, List.append_assoc, List.singleton_append,
      splitOnChar_line sep x _ (hl x (by simp)),
      splitOnChar_joined sep (y :: r) R (by simp) (fun l h => hl l (by simp [h]))]
    rfl

theorem splitOnChar_join (sep : Char) : ∀ (L : List Str), L ≠ [] → (∀ l ∈ L, sep ∉ l) →
    splitOnChar sep (joinWith [sep] L) = L
  | [], h, _ => absurd rfl h
  | [x], _, hl => splitOnChar_no_sep sep x (hl x (by simp))
  | x :: y :: r, _, hl => by
    rw [joinWith_cons_cons, List.append_assoc, List.singleton_append, splitOnChar_line sep x _ (hl x (by simp)),
      splitOnChar_join sep (y :: r) (by simp) (fun l h => hl l (by simp [h]))]

theorem splitOnChar_replicate (sep : Char) : ∀ k, splitOnChar sep (List.replicate k sep) = List.replicate (k + 1) []
  | 0 => rfl
  | k + 1 => by rw [List.replicate_succ, splitOnChar_cons_sep, splitOnChar_replicate sep k]; rfl

theorem replaceAll_nil (old new : Str) : replaceAll old new [] = [] := by
  rw [replaceAll]

theorem replaceAll_prefix (old new r : Str) (hne : old ≠ []) :
    replaceAll old new (old ++ r) = new ++ replaceAll old new r := by
  obtain ⟨c, o, rfl⟩ := List.exists_cons_of_ne_nil hne
  have hp : (c :: o).isPrefixOf (c :: (o ++ r)) = true := startsWith_append_self (c :: o) r
  have hdrop : (c :: (o ++ r)).drop (c :: o).length = r := List.drop_left (l₁ := c :: o)
  rw [List.cons_append, replaceAll]
  simp only [hp, List.isEmpty_cons, Bool.not_false, Bool.and_self, if_true, hdrop]

theorem replaceAll_skip (old new t r : Str) (c : Char) (hc : old.head? = some c) (ht : c ∉ t) :
    replaceAll old new (t ++ r) = t ++ replaceAll old new r := by
  obtain ⟨os, rfl⟩ := List.head?_eq_some_iff.mp hc
  induction t with
  | nil => rfl
  | cons x xs ih =>
    have hox : (c == x) = false := beq_false_of_ne (List.ne_of_not_mem_cons ht)
    rw [List.cons_append, replaceAll, List.isPrefixOf_cons_cons, hox, Bool.false_and, Bool.false_and, if_neg (by simp),
      ih (List.not_mem_of_not_mem_cons ht)]
    rfl

theorem indentLines_single (pre s : Str) (hnl : '\n' ∉ s) (hs : Trimmed s) (hne : s ≠ []) : indentLines pre s = pre ++ s := by
  rw [indentLines, splitOnChar_no_sep '\n' s hnl, List.map_cons, List.map_nil, joinWith_single, hs.strip_eq,
    List.isEmpty_eq_false_iff.mpr hne]
  rfl

theorem indentAllButFirst_single (s : Str) (hnl : '\n' ∉ s) (hs : Trimmed s) (hne : s ≠ []) :
    indentAllButFirst s = s := by
  have hnl' : '\n' ∉ tab ++ s := List.not_mem_append (by decide) hnl
  rw [indentAllButFirst, indentLines_single tab s hnl hs hne, splitOnChar_no_sep '\n' _ hnl']
  exact stripLeft_pad pyWs tab s (by decide) hs.1

theorem unwrapProse_single (d : Str) (hnl : '\n' ∉ d) (hd : Trimmed d) : unwrapProse d = d := by
  rw [unwrapProse, splitOnChar_no_sep '\n' d hnl, List.map_cons, List.map_nil, joinWith_single, hd.strip_eq,
    hd.stripRight_eq]

end Py
