import DT.FuncKind
import DT.ClassKind
import DT.ArgAttr
import DT.DocParse
import DT.Refine
/-! Chains of conversions at statement level (C05): every hop is the statement-level model of its kind - the three
    docstring styles (`emit.docstring` -> `parse_docstring` with its style detection), the class kind, the function /
    method kind, the argparse kind. Tied to the code by the driver operation `stmt_chain` (the real chain through the
    emitted text of every hop). -/
namespace Py
namespace StmtChain
open DocEmit

inductive Hop where
  | rest | numpydoc | google | cls | func (inline : Bool) | argparse
deriving DecidableEq, Repr

/-- the style `parse_docstring` derives from the text: ReST when any ReST token occurs, else google when a google
    token occurs, else numpydoc -/
inductive Detected where | rest | google | numpydoc
deriving DecidableEq

def googleTokens : List Str := ["Args:".toList, "Kwargs:".toList, "Raises:".toList, "Returns:".toList]

def detect (text : Str) : Detected :=
  if isRestStyle text then .rest
  else if googleTokens.any (fun t => containsSub text t) then .google
  else .numpydoc

/-- `parse.docstring(text)` (default text kept) whatever style the text is read as -/
def parseAny (text : Str) : Res IR :=
  if text.isEmpty then .ok {} else
  match detect text with
  | .rest => parseDocstringRest text true
  | .google => DocParse.parseDocstring .google text true
  | .numpydoc => DocParse.parseDocstring .numpydoc text true

/-- one hop: emit as the kind, parse the artefact back (`edd` = default text in the artefacts of the AST kinds) -/
def hop (h : Hop) (edd : Bool) (ir : IR) : Res IR :=
  match h with
  | .rest => (emitDocstringRest ir true).bind parseAny
  | .numpydoc => (emitDocstring .numpydoc ir true).bind parseAny
  | .google => (emitDocstring .google ir true).bind parseAny
  | .cls => ClassKind.classKindRT ir edd
  | .func inline => FuncKind.funcKindRT ir inline edd 2 false
  | .argparse =>
    match ir.returns with
    | some _ => .unmodelled "argparse with a return entry"
    | none =>
      (ArgAttr.argparseParams edd ir.params false).bind fun ps =>
      .ok { doc := (match ClassAttr.setValue (.str ir.doc) with | .str s => s | _ => ir.doc), params := ps, returns := none }

def chain (edd : Bool) : List Hop → IR → Res IR
  | [], ir => .ok ir
  | h :: hs, ir => (hop h edd ir).bind (chain edd hs)

/-- **C05, statement level**: a chain is the composition of its parts -/
theorem chain_append (edd : Bool) (a b : List Hop) (ir : IR) :
    chain edd (a ++ b) ir = (chain edd a ir).bind (chain edd b) := by
  induction a generalizing ir with
  | nil => rfl
  | cons h t ih =>
    simp only [List.cons_append, chain]
    cases hop h edd ir with
    | ok x => simp [Res.bind, ih]
    | raises k => rfl
    | unmodelled w => rfl

/-- **the argparse hop of a statement-level chain refines the interface-level normal form**: for a description without
    return entry whose options are of the modelled shapes, the hop succeeds, keeps the summary (unless it is written
    between quotes, which `set_value` strips) and gives every option what `Kinds.norm .argparse` says, up to the one
    reading of `Optional` without a value -/
theorem hop_argparse_refines (ir : IR) (edd : Bool) (hr : ir.returns = none)
    (hd : ClassAttr.setValue (.str ir.doc) = .str ir.doc)
    (h : ∀ np ∈ ir.params, ArgAttr.ArgDom np.1 np.2) :
    ∃ out, hop .argparse edd ir = .ok out ∧ out.doc = ir.doc ∧ out.returns = none ∧
      out.params.map (fun nq => (nq.1, ArgAttr.canonOpt nq.2)) =
        (Kinds.norm .argparse ir).params.map (fun np => (np.1, ArgAttr.canonOpt np.2)) := by
  obtain ⟨qs, hq, hm⟩ := Refine.argparse_refines ir edd h
  refine ⟨{ doc := ir.doc, params := qs, returns := none }, ?_, rfl, rfl, hm⟩
  unfold hop
  simp only [hr, hq, Res.bind, hd]

end StmtChain
end Py
