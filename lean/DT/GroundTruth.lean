import DT.FsSync
/-! `conformance.ground_truth` over ALL its targets (C09 / C10, "for any two or three of the kinds"): the loop over the
    kinds and their files, the per-file `_conform_filename` step, and the report `effect[filename] = effect.get(filename,
    False) or modified` (fix 460074c). The lower layers (`find_in_ast`, `RewriteAtQuery`, `emit.file`) enter through named
    laws, among them the FRAME laws that matter when one file is named for several kinds: writing the definition
    addressed by one location leaves what is found at an independent location as it was.
    Behind `end GroundTruth`: the single-kind `conform` step of C09 / C10 (`conform_agrees`, `conform_idem`,
    `conform_converges`); it is the keyed step over `Unit` (`conform_eq_conformK`), which is why it stands here. -/
namespace FsSync
namespace GroundTruth

/-- `effect[filename] = effect.get(filename, False) or modified` on an ordered dict (keys unique, first position kept) -/
def orInto : List (String × Bool) → String × Bool → List (String × Bool)
  | [], fm => [fm]
  | e :: es, fm => if e.1 == fm.1 then (e.1, e.2 || fm.2) :: es else e :: orInto es fm

/-- the report of one `sync`: one `(filename, modified)` per `_conform_filename` call, in call order -/
def report (calls : List (String × Bool)) : List (String × Bool) := calls.foldl orInto []

/-- before fix 460074c: `effect.get(filename, modified)` - the answer of the FIRST step on a file was kept -/
def keepFirst : List (String × Bool) → String × Bool → List (String × Bool)
  | [], fm => [fm]
  | e :: es, fm => if e.1 == fm.1 then e :: es else e :: keepFirst es fm
def reportOld (calls : List (String × Bool)) : List (String × Bool) := calls.foldl keepFirst []

def lookup : List (String × Bool) → String → Option Bool
  | [], _ => none
  | e :: es, f => if e.1 == f then some e.2 else lookup es f

def named (calls : List (String × Bool)) (f : String) : Bool := calls.any (·.1 == f)
def anyMod (calls : List (String × Bool)) (f : String) : Bool := calls.any (fun c => c.1 == f && c.2)

theorem lookup_orInto (eff : List (String × Bool)) (fm : String × Bool) (f : String) :
    lookup (orInto eff fm) f = if fm.1 = f then some ((lookup eff f).getD false || fm.2) else lookup eff f := by
  induction eff with
  | nil => simp [orInto, lookup]
  | cons e es ih =>
    simp only [orInto, lookup]
    by_cases he : e.1 = fm.1 <;> by_cases hf : fm.1 = f <;> simp_all [lookup]

theorem named_cons (c : String × Bool) (cs : List (String × Bool)) (f : String) :
    named (c :: cs) f = (c.1 == f || named cs f) := rfl

theorem anyMod_cons (c : String × Bool) (cs : List (String × Bool)) (f : String) :
    anyMod (c :: cs) f = (c.1 == f && c.2 || anyMod cs f) := rfl

theorem anyMod_of_not_named (cs : List (String × Bool)) (f : String) (h : named cs f = false) : anyMod cs f = false := by
  rw [named, List.any_eq_false] at h
  rw [anyMod, List.any_eq_false]
  exact fun x hx hc => h x hx (Bool.and_eq_true_iff.mp hc).1

theorem lookup_fold (calls : List (String × Bool)) : ∀ (acc : List (String × Bool)) (f : String),
    lookup (calls.foldl orInto acc) f =
      if named calls f then some ((lookup acc f).getD false || anyMod calls f) else lookup acc f := by
  induction calls with
  | nil => intro acc f; simp [named]
  | cons c cs ih =>
    intro acc f
    rw [List.foldl_cons, ih, lookup_orInto, named_cons, anyMod_cons]
    cases hc : c.1 == f <;> cases hn : named cs f <;> simp_all [anyMod_of_not_named, Bool.or_assoc]

/-- **the report is the disjunction of the steps**: a file is in the report exactly when some step named it, and it is
    reported changed exactly when SOME step on it changed it - for any number of kinds, files and steps -/
theorem report_lookup (calls : List (String × Bool)) (f : String) :
    lookup (report calls) f = if named calls f then some (anyMod calls f) else none := by
  unfold report
  rw [lookup_fold]
  simp [lookup]

/-- the old report kept the first answer: a file left alone by its first step and rewritten by a later one was
    reported unchanged (what fix 460074c repaired) -/
theorem reportOld_witness :
    lookup (reportOld [("lib.py", false), ("lib.py", true)]) "lib.py" = some false ∧
    lookup (report [("lib.py", false), ("lib.py", true)]) "lib.py" = some true := by decide +kernel

structure LayerK (M D K : Type) where
  render : M → Text              -- `to_code` + black
  read : Text → M                -- `ast_parse`
  key : D → K                    -- the location a definition is emitted for (`--<kind>-name`)
  find : K → M → Option D        -- `find_in_ast(search, ·)`
  replaceAt : D → M → M          -- `RewriteAtQuery(search, d).visit`
  single : D → M                 -- `Module(body=[d])`
  appendText : Text → D → Text   -- `emit.file(d, mode="a")`
  cmp : D → D → Bool             -- `cmp_ast`
  indep : K → K → Prop           -- neither location lies inside the other

structure LawsK {M D K : Type} (L : LayerK M D K) : Prop where
  read_render : ∀ m, L.read (L.render m) = m
  find_single : ∀ d, L.find (L.key d) (L.single d) = some d
  find_replace : ∀ d m, (L.find (L.key d) m).isSome → L.find (L.key d) (L.replaceAt d m) = some d
  find_append : ∀ t d, L.find (L.key d) (L.read t) = none → L.find (L.key d) (L.read (L.appendText t d)) = some d
  cmp_refl : ∀ d, L.cmp d d = true
  -- frame: what is found at an independent location is not affected
  replace_frame : ∀ d m k, L.indep k (L.key d) → L.find k (L.replaceAt d m) = L.find k m
  append_frame : ∀ t d k, L.indep k (L.key d) → L.find k (L.read (L.appendText t d)) = L.find k (L.read t)

variable {M D K : Type}

/-- `_conform_filename`: new content and the reported flag -/
def conformK (L : LayerK M D K) (content : Option Text) (d : D) : Option Text × Bool :=
  match content with
  | none => (some (L.render (L.single d)), true)
  | some t =>
    match L.find (L.key d) (L.read t) with
    | none => (some (L.appendText t d), true)
    | some d0 => if L.cmp d0 d then (some t, false) else (some (L.render (L.replaceAt d (L.read t))), true)

/-- the file holds a definition at `key d` that compares equal to `d` -/
def Agrees (L : LayerK M D K) (fs : FS) (pd : Path × D) : Prop :=
  ∃ t, fs pd.1 = some t ∧ ∃ d', L.find (L.key pd.2) (L.read t) = some d' ∧ L.cmp d' pd.2 = true

def stepK (L : LayerK M D K) (fs : FS) (pd : Path × D) : FS := fs.set pd.1 (conformK L (fs pd.1) pd.2).1

/-- all `_conform_filename` calls of one `ground_truth`, in order -/
def runK (L : LayerK M D K) (fs : FS) (ts : List (Path × D)) : FS := ts.foldl (stepK L) fs

theorem conformK_agrees (L : LayerK M D K) (h : LawsK L) (c : Option Text) (d : D) :
    ∃ t, (conformK L c d).1 = some t ∧ ∃ d', L.find (L.key d) (L.read t) = some d' ∧ L.cmp d' d = true := by
  fun_cases conformK L c d
  · exact ⟨_, rfl, d, by rw [h.read_render, h.find_single], h.cmp_refl d⟩
  · next t hf => exact ⟨_, rfl, d, h.find_append t d hf, h.cmp_refl d⟩
  · next t d0 hf hc => exact ⟨t, rfl, d0, hf, hc⟩
  · next t d0 hf hc => exact ⟨_, rfl, d, by rw [h.read_render, h.find_replace d _ (by rw [hf]; rfl)], h.cmp_refl d⟩

theorem conformK_false (L : LayerK M D K) (c : Option Text) (d : D) :
    (conformK L c d).2 = false → (conformK L c d).1 = c := by
  fun_cases conformK L c d <;> simp

theorem conformK_frame (L : LayerK M D K) (h : LawsK L) (t : Text) (d : D) (k : K) (hi : L.indep k (L.key d)) :
    ∃ t', (conformK L (some t) d).1 = some t' ∧ L.find k (L.read t') = L.find k (L.read t) := by
  simp only [conformK]
  split
  · exact ⟨_, rfl, h.append_frame t d k hi⟩
  · split
    · exact ⟨_, rfl, rfl⟩
    · exact ⟨_, rfl, by rw [h.read_render, h.replace_frame d _ k hi]⟩

theorem step_agrees (L : LayerK M D K) (h : LawsK L) (fs : FS) (pd : Path × D) : Agrees L (stepK L fs pd) pd := by
  unfold Agrees stepK
  rw [FS.set_same]
  exact conformK_agrees L h _ _

/-- a later step keeps an earlier target in agreement: on another file trivially, on the SAME file (a file named for
    several kinds) because the two locations are independent -/
theorem step_keeps (L : LayerK M D K) (h : LawsK L) (fs : FS) (x y : Path × D)
    (hx : Agrees L fs x) (hind : y.1 = x.1 → L.indep (L.key x.2) (L.key y.2)) : Agrees L (stepK L fs y) x := by
  obtain ⟨t, ht, hfind⟩ := hx
  unfold Agrees stepK
  by_cases hp : y.1 = x.1
  · obtain ⟨t', ht', hf'⟩ := conformK_frame L h t y.2 _ (hind hp)
    rw [hp, ht, FS.set_same]
    exact ⟨t', ht', hf' ▸ hfind⟩
  · rw [FS.set_other _ _ _ _ (Ne.symm hp)]
    exact ⟨t, ht, hfind⟩

theorem runK_cons (L : LayerK M D K) (fs : FS) (y : Path × D) (ts : List (Path × D)) :
    runK L fs (y :: ts) = runK L (stepK L fs y) ts := rfl

theorem run_keeps (L : LayerK M D K) (h : LawsK L) (x : Path × D) (ts : List (Path × D)) (fs : FS)
    (hx : Agrees L fs x) (hind : ∀ y ∈ ts, y.1 = x.1 → L.indep (L.key x.2) (L.key y.2)) : Agrees L (runK L fs ts) x :=
  List.foldlRecOn (motive := (Agrees L · x)) ts (stepK L) hx fun g hg y hy => step_keeps L h g x y hg (hind y hy)

/-- two targets that share a file address independent locations -/
def Separate (L : LayerK M D K) : List (Path × D) → Prop
  | [] => True
  | x :: ts => (∀ y ∈ ts, y.1 = x.1 → L.indep (L.key x.2) (L.key y.2)) ∧ Separate L ts

/-- **C09 over the whole loop**: after `ground_truth` has been through ALL its targets - any number of kinds, any number
    of files per kind, files shared between kinds provided the targets in one file address independent locations
    (`Separate`), whatever every file held before (missing, empty, definition absent, stale, in agreement) - EVERY target
    holds a definition at its location that compares equal to the one emitted from the truth. -/
theorem sync_all_agree (L : LayerK M D K) (h : LawsK L) : ∀ (ts : List (Path × D)) (fs : FS),
    Separate L ts → ∀ x ∈ ts, Agrees L (runK L fs ts) x
  | [], _, _ => nofun
  | y :: ts, fs, hsep => by
    intro x hx
    rw [runK_cons]
    rcases List.mem_cons.mp hx with rfl | hx'
    · exact run_keeps L h x ts _ (step_agrees L h fs x) hsep.1
    · exact sync_all_agree L h ts _ hsep.2 x hx'

/-- the flag of a step is truthful: `False` means the file is byte-identical to before -/
theorem step_false_unchanged (L : LayerK M D K) (fs : FS) (pd : Path × D)
    (hflag : (conformK L (fs pd.1) pd.2).2 = false) : stepK L fs pd = fs :=
  FS.set_eq_self (conformK_false L _ _ hflag).symm

/-- a file no step names is not touched -/
theorem run_frame (L : LayerK M D K) : ∀ (ts : List (Path × D)) (fs : FS) (q : Path),
    (∀ x ∈ ts, x.1 ≠ q) → runK L fs ts q = fs q :=
  fun ts fs q hq => List.foldlRecOn (motive := fun g => g q = fs q) ts (stepK L) rfl fun _ hg y hy =>
    (FS.set_other _ _ _ _ (hq y hy).symm).trans hg

end GroundTruth

/-! ### the abstract per-file `conform` step of sync (C09/C10), lower layers as a structure with named laws -/

structure Layer (M D : Type) where
  render : M → Text              -- `to_code` + black
  read : Text → M                -- `ast_parse`
  find : M → Option D            -- `find_in_ast(search, ·)`
  replaceAt : D → M → M          -- `RewriteAtQuery(search, d).visit`
  single : D → M                 -- `Module(body=[d])`
  appendText : Text → D → Text   -- `emit.file(d, mode="a")`
  cmp : D → D → Bool             -- `cmp_ast`

structure Laws {M D : Type} (L : Layer M D) : Prop where
  read_render : ∀ m, L.read (L.render m) = m
  find_single : ∀ d, L.find (L.single d) = some d
  find_replace : ∀ d m, (L.find m).isSome → L.find (L.replaceAt d m) = some d
  find_append : ∀ t d, L.find (L.read t) = none → L.find (L.read (L.appendText t d)) = some d
  cmp_refl : ∀ d, L.cmp d d = true

/-- `_conform_filename`: new content and the reported flag -/
def conform {M D : Type} (L : Layer M D) (content : Option Text) (d : D) : Option Text × Bool :=
  match content with
  | none => (some (L.render (L.single d)), true)
  | some t =>
    match L.find (L.read t) with
    | none => (some (L.appendText t d), true)
    | some d0 => if L.cmp d0 d then (some t, false) else (some (L.render (L.replaceAt d (L.read t))), true)

/-- the machine with one location per file is the keyed one over `Unit`, where nothing is independent -/
def Layer.toK {M D : Type} (L : Layer M D) : GroundTruth.LayerK M D Unit :=
  ⟨L.render, L.read, fun _ => (), fun _ => L.find, L.replaceAt, L.single, L.appendText, L.cmp, fun _ _ => False⟩

theorem Laws.toK {M D : Type} {L : Layer M D} (h : Laws L) : GroundTruth.LawsK L.toK :=
  ⟨h.read_render, h.find_single, h.find_replace, h.find_append, h.cmp_refl, fun _ _ _ => False.elim, fun _ _ _ => False.elim⟩

theorem conform_eq_conformK {M D : Type} (L : Layer M D) (c : Option Text) (d : D) :
    conform L c d = GroundTruth.conformK L.toK c d := rfl

/-- after one `conform` the target agrees with the truth (C09, per file) -/
theorem conform_agrees {M D : Type} (L : Layer M D) (h : Laws L) (c : Option Text) (d : D) :
    ∃ t, (conform L c d).1 = some t ∧ ∃ d', L.find (L.read t) = some d' ∧ L.cmp d' d = true :=
  conform_eq_conformK L c d ▸ GroundTruth.conformK_agrees L.toK h.toK c d

/-- a second `conform` with the same truth changes nothing and reports "unchanged" (C10, per file) -/
theorem conform_idem {M D : Type} (L : Layer M D) (h : Laws L) (c : Option Text) (d : D) :
    conform L (conform L c d).1 d = ((conform L c d).1, false) := by
  obtain ⟨t, ht, d', hfind, hcmp⟩ := conform_agrees L h c d
  rw [ht]
  simp only [conform, hfind, hcmp, if_true]

def iter {α : Type} (f : α → α) : Nat → α → α
  | 0, a => a
  | n + 1, a => f (iter f n a)

/-- and therefore any number of further runs: `conformⁿ⁺¹ = conform¹` -/
theorem conform_converges {M D : Type} (L : Layer M D) (h : Laws L) (c : Option Text) (d : D) (n : Nat) :
    iter (fun c => (conform L c d).1) (n + 1) c = (conform L c d).1 := by
  induction n with
  | zero => rfl
  | succ n ih =>
    show (conform L (iter (fun c => (conform L c d).1) (n + 1) c) d).1 = _
    rw [ih, conform_idem L h c d]

#print axioms conform_converges

end FsSync
