import DT.C17
/-! C17 for float defaults written `digits.digits` (what `repr` gives for the floats of the property domain that need
    no exponent): the value text survives the scan (the full stop is followed by a digit), the trimming, and both the
    un-typed (`float()`) and the typed (`literal_eval` + `float()`) value stage. The model carries a float as its
    literal token; that `float(repr(x)) == x` is CPython's. -/
namespace Py

theorem untypedValue_intTests_false {t : Str} (hi : isIntTok t = false) :
    isDecimal t = false ∧ (t.head? == some '-' && isDecimal t.tail) = false := by
  unfold isIntTok at hi
  split at hi
  · exact ⟨isDecimal_cons_nondigit _ (by decide), by simpa using hi⟩
  · exact ⟨isDecimal_cons_nondigit _ (by decide), rfl⟩
  · rename_i hm _
    exact ⟨hi, by rw [beq_false_of_ne fun e => (List.head?_eq_some_iff.mp e).elim hm, Bool.false_and]⟩

theorem untypedValue_floatTok {t : Str} (hs : strip pyWs t = t) (hi : isIntTok t = false) (hf : isFloatTok t = true) :
    untypedValue t = .ok (.float t) := by
  obtain ⟨_, k2, k3⟩ := not_keyword isFloatTok hf (by decide)
  unfold untypedValue
  simp only [(untypedValue_intTests_false hi).1, (untypedValue_intTests_false hi).2, Bool.false_eq_true, if_false, hs, hf,
    Bool.or_true, if_true, k2, k3]

/-- **any float token the scan and the trimming keep, no scalar type declared: the same token comes back** -/
theorem C17_floatTok (p t : Str) (typ : Option Str) (keep : Bool) (hf : isFloatTok t = true) (hi : isIntTok t = false)
    (hscan : scanDefault t false = t) (hst : TrimStable t) (hws : strip pyWs t = t)
    (ht : ∀ u, typ = some u → simpleTypes.contains u = false)
    (hp : NoOccBefore phrase0 (p ++ announce ++ t) (p.length + 1)) :
    extractDefault (p ++ announce ++ t) typ keep = .ok ⟨if keep then p ++ announce ++ t else p, some (.float t)⟩ :=
  C17_stable p t typ _ keep hscan hst (by rw [valueStage_untyped _ typ ht, untypedValue_floatTok hws hi hf]) hp

/-- **... and with `:type: float`** - the typed branch (`literal_eval` + `float()`) -/
theorem C17_floatTok_typed (p t : Str) (keep : Bool) (hf : isFloatTok t = true) (hi : isIntTok t = false)
    (hscan : scanDefault t false = t) (hst : TrimStable t) (hbl : strip [' ', '\t'] t = t)
    (hp : NoOccBefore phrase0 (p ++ announce ++ t) (p.length + 1)) :
    extractDefault (p ++ announce ++ t) (some "float".toList) keep
      = .ok ⟨if keep then p ++ announce ++ t else p, some (.float t)⟩ :=
  C17_stable p t _ _ keep hscan hst
    (by rw [valueStage_typed _ _ scalar_simple.2.1 (not_noneType isFloatTok hf (by decide)), literalEval_float hbl hi hf,
          Res.bind, coerce_float_float]) hp

def floatTok (ip fr : Str) : Str := ip ++ '.' :: fr

structure FloatOK (ip fr : Str) : Prop where
  ipDigits : ip.all isAsciiDigit = true
  frDigits : fr.all isAsciiDigit = true
  ipNe : ip ≠ []
  frNe : fr ≠ []

theorem scanDefault_float (ip fr : Str) (h : FloatOK ip fr) : scanDefault (floatTok ip fr) false = floatTok ip fr := by
  obtain ⟨d, r, rfl⟩ := List.exists_cons_of_ne_nil h.frNe
  have hd : isAsciiDigit d = true := all_head h.frDigits d rfl
  unfold floatTok
  have hb : isBracket '.' = false := by decide
  rw [scanDefault_plain ip _ false (fun c hc => digit_plain (List.all_eq_true.mp h.ipDigits c hc)), scanDefault]
  simp [hd, hb, scanDefault_digits (d :: r) h.frDigits]

theorem floatTok_ends (ip fr : Str) (h : FloatOK ip fr) :
    (∀ c, (floatTok ip fr).head? = some c → isAsciiDigit c = true)
      ∧ (∀ c, (floatTok ip fr).getLast? = some c → isAsciiDigit c = true) := by
  constructor
  · obtain ⟨a, t, rfl⟩ := List.exists_cons_of_ne_nil h.ipNe
    exact fun c hc => all_head h.ipDigits c hc
  · have : (floatTok ip fr).getLast? = fr.getLast? := by
      rw [floatTok, List.getLast?_append, List.getLast?_cons_of_ne_nil h.frNe,
        Option.or_of_isSome (List.getLast?_isSome.mpr h.frNe)]
    exact fun c hc => all_last h.frDigits c (this ▸ hc)

theorem float_trimStable (ip fr : Str) (h : FloatOK ip fr) : TrimStable (floatTok ip fr) :=
  .of_digitEnds (floatTok_ends ip fr h).1 (floatTok_ends ip fr h).2

theorem isFloatTok_float (ip fr : Str) (h : FloatOK ip fr) : isFloatTok (floatTok ip fr) = true := by
  obtain ⟨c, t, rfl⟩ := List.exists_cons_of_ne_nil h.ipNe
  have hi := List.all_eq_true.mp h.ipDigits
  have hdot : isAsciiDigit '.' = false := by decide
  have hs : dropSign (floatTok (c :: t) fr) = floatTok (c :: t) fr :=
    dropSign_unsigned _ (digit_unsigned (all_head h.ipDigits c rfl))
  have hfr : fr.dropWhile isAsciiDigit = [] := by
    have := List.dropWhile_append_of_pos (l₂ := []) (List.all_eq_true.mp h.frDigits)
    rwa [List.append_nil] at this
  have htw : (floatTok (c :: t) fr).takeWhile isAsciiDigit = c :: t := takeWhile_append_stop _ _ '.' fr hi hdot
  have hdw : (floatTok (c :: t) fr).dropWhile isAsciiDigit = '.' :: fr := dropWhile_append_stop _ _ '.' fr hi hdot
  unfold isFloatTok
  simp only [hs, htw, hdw, hfr, expOk, Bool.and_true]
  rfl

theorem float_not_decimal (ip fr : Str) : isDecimal (floatTok ip fr) = false := by
  have : isAsciiDigit '.' = false := by decide
  simp [isDecimal, floatTok, this]

theorem isIntTok_float (ip fr : Str) (h : FloatOK ip fr) : isIntTok (floatTok ip fr) = false := by
  have hnd := float_not_decimal ip fr
  obtain ⟨c, t, rfl⟩ := List.exists_cons_of_ne_nil h.ipNe
  exact (isIntTok_unsigned _ (digit_unsigned (all_head h.ipDigits c rfl))).trans hnd

theorem floatTok_strip (ip fr : Str) (h : FloatOK ip fr) (chars : Str) (hc : chars.any isAsciiDigit = false) :
    strip chars (floatTok ip fr) = floatTok ip fr :=
  strip_digitEnds (floatTok_ends ip fr h).1 (floatTok_ends ip fr h).2 chars hc

/-- **a float default `ip.fr`, no scalar type declared: the same token comes back (both modes)** -/
theorem C17_float (p ip fr : Str) (typ : Option Str) (keep : Bool) (h : FloatOK ip fr)
    (ht : ∀ t, typ = some t → simpleTypes.contains t = false)
    (hp : NoOccBefore phrase0 (p ++ announce ++ floatTok ip fr) (p.length + 1)) :
    extractDefault (p ++ announce ++ floatTok ip fr) typ keep
      = .ok ⟨if keep then p ++ announce ++ floatTok ip fr else p, some (.float (floatTok ip fr))⟩ :=
  C17_floatTok p _ typ keep (isFloatTok_float ip fr h) (isIntTok_float ip fr h) (scanDefault_float ip fr h)
    (float_trimStable ip fr h) (floatTok_strip ip fr h _ (by decide)) ht hp

/-- **... and with `:type: float`** - the typed branch (`literal_eval` + `float()`) -/
theorem C17_float_typed (p ip fr : Str) (keep : Bool) (h : FloatOK ip fr)
    (hp : NoOccBefore phrase0 (p ++ announce ++ floatTok ip fr) (p.length + 1)) :
    extractDefault (p ++ announce ++ floatTok ip fr) (some "float".toList) keep
      = .ok ⟨if keep then p ++ announce ++ floatTok ip fr else p, some (.float (floatTok ip fr))⟩ :=
  C17_floatTok_typed p _ keep (isFloatTok_float ip fr h) (isIntTok_float ip fr h) (scanDefault_float ip fr h)
    (float_trimStable ip fr h) (floatTok_strip ip fr h _ (by decide)) hp

example : FloatOK "0".toList "5".toList := ⟨by decide, by decide, by decide, by decide⟩
example : extractDefault "the rate. Defaults to 0.25".toList (some "float".toList) false =
    .ok ⟨"the rate.".toList, some (.float "0.25".toList)⟩ := by
  -- the four literals as character lists first: the kernel then runs the model without decoding them
  rw [String.toList_ofList, String.toList_ofList, String.toList_ofList, String.toList_ofList]; decide +kernel

end Py
