import DT.ClassAttrTheorems
/-! Statement-level model of one parameter through `emit.function` (inline types) and `parse.function`:
    the default is emitted with `set_value` (`None` for an absent or none-like one), read back by
    `func_arg2param` as a Constant and normalised by `_infer_default`. `funcRT_eq_norm` derives the
    interface-level `Kinds.normFuncParam` from it. -/
namespace Py
namespace FuncAttr
open Kinds ClassAttr

/-- `set_value(None) if default in none_types else set_value(default)`, then `get_value` of that Constant -/
def emittedDefault (p : Param) : Val :=
  match p.default with
  | none => .str noneStr
  | some d => if ClassAttr.isNoneType d then .str noneStr else
      (match setValue d with | .none => .str noneStr | v => v)

/-- a negative number (after unparse / re-parse it is a `UnaryOp`, not a `Constant`) -/
def isNegNum : Val → Bool
  | .int neg d => neg && !isZeroDigits d
  | .float t => startsWith t ['-']
  | _ => false

/-- a negative numeric default under a str-mentioning type: `_infer_default` neither unwraps nor evaluates the
    `UnaryOp` node, it stays in the description (recorded finding) -/
def negUnderStr (p : Param) : Bool :=
  match p.default with
  | some v => isNegNum v && (match needsQuoting p.typ with | .ok q => q | _ => true)
  | none => false

/-- one parameter: annotation = the declared type (inline), default as above, `_infer_default` on the way back -/
def funcRT (p : Param) : Res Param :=
  if negUnderStr p then .unmodelled "a negative number under a str-mentioning type stays an ast node" else
  (ClassAttr.inferDefault p.typ (emittedDefault p)).bind fun r => .ok { p with typ := r.1, default := some r.2 }

/-- a default that `set_value` and `_infer_default` both leave alone comes back as it is -/
theorem funcRT_carried (p : Param) (t : Str) (q : Bool) (v : Val) (ht : p.typ = some t)
    (hq : needsQuoting (some t) = .ok q) (hv : Carried v) (hd : p.default = some v)
    (hneg : negUnderStr p = false) :
    funcRT p = .ok { p with typ := some t, default := some v } := by
  have he : emittedDefault p = v := by
    unfold emittedDefault
    rw [hd]
    simp only [isNoneType_eq, isNoneVal_carried v hv, Bool.false_eq_true, if_false, setValue_carried v hv]
    cases v <;> first | rfl | exact hv.elim
  unfold funcRT
  rw [hneg, he, ht, inferDefault_carried t q v hq hv]
  rfl

theorem funcRT_nodefault (p : Param) (t : Str) (q : Bool) (ht : p.typ = some t) (hq : needsQuoting (some t) = .ok q)
    (hd : noDefault p) : funcRT p = .ok { p with typ := some t, default := some vNoneStr } := by
  have he : emittedDefault p = .str noneStr := by
    unfold emittedDefault
    rcases hd with h | h | h <;> rw [h] <;> simp [ClassAttr.isNoneType]
  have hn : negUnderStr p = false := by
    unfold negUnderStr
    rcases hd with h | h | h <;> rw [h] <;> simp [isNegNum]
  unfold funcRT
  rw [hn, he, ht, inferDefault_noneStr t q hq]
  rfl

theorem funcRT_num (p : Param) (t : Str) (q : Bool) (v : Val) (ht : p.typ = some t)
    (hq : needsQuoting (some t) = .ok q) (hv : numOk v) (hd : p.default = some v) (hneg : isNegNum v = false ∨ q = false) :
    funcRT p = .ok { p with typ := some t, default := some v } :=
  funcRT_carried p t q v ht hq (carried_num v hv) hd
    (by unfold negUnderStr; rw [hd, ht, hq]; rcases hneg with h | h <;> simp [h])

theorem funcRT_str (p : Param) (t s : Str) (q : Bool) (ht : p.typ = some t) (hq : needsQuoting (some t) = .ok q)
    (hs : strOk s) (hd : p.default = some (.str s)) :
    funcRT p = .ok { p with typ := some t, default := some (.str s) } :=
  funcRT_carried p t q (.str s) ht hq (carried_str s hs) hd
    (by unfold negUnderStr; rw [hd]; simp [isNegNum])

/-- the typed part of the function domain, by shape of the default -/
inductive FuncDom (p : Param) : Prop where
  | noDefault (t : Str) (q : Bool) (ht : p.typ = some t) (hq : needsQuoting (some t) = .ok q) (hd : ClassAttr.noDefault p)
  | num (t : Str) (q : Bool) (v : Val) (ht : p.typ = some t) (hq : needsQuoting (some t) = .ok q) (hv : numOk v)
      (hd : p.default = some v) (hneg : isNegNum v = false ∨ q = false)
  | str (t s : Str) (q : Bool) (ht : p.typ = some t) (hq : needsQuoting (some t) = .ok q) (hs : strOk s)
      (hd : p.default = some (.str s))

/-- **statement level = interface level for the function kind** -/
theorem funcRT_eq_norm (p : Param) (h : FuncDom p) : funcRT p = .ok (normFuncParam p) := by
  cases h with
  | noDefault t q ht hq hd =>
    rw [funcRT_nodefault p t q ht hq hd, normFuncParam_eq, fillWith_noValue _ p hd, with_typ p t _ ht]
  | num t q v ht hq hv hd hneg =>
    rw [funcRT_num p t q v ht hq hv hd hneg, normFuncParam_eq, fillWith_literal _ _ p t v ht hd (carried_num v hv)]
  | str t s q ht hq hs hd =>
    rw [funcRT_str p t s q ht hq hs hd, normFuncParam_eq, fillWith_literal _ _ p t _ ht hd (carried_str s hs)]

example : FuncDom { doc := some ['x'], typ := some tInt, default := some (.int false ['0']) } :=
  .num tInt false (.int false ['0']) rfl needsQuoting_int trivial rfl (Or.inl rfl)
example : FuncDom { doc := some ['x'], typ := some "Optional[str]".toList, default := none } :=
  .noDefault "Optional[str]".toList true rfl (by rw [String.toList_ofList]; decide +kernel) (Or.inl rfl)

end FuncAttr
end Py
