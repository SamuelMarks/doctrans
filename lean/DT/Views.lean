import DT.KindsTheorems
/-! C06: what the Python interpreter itself must see in an emitted artefact — the class's attribute
    table, the function's signature, the argparse action table — as functions of the description
    (on `Kinds.dom`). The interpreter, `inspect`, `argparse`, `ast.unparse` and black are not modelled:
    the correspondence run executes every artefact and compares CPython's answer with these views. -/
namespace Py
namespace Views
open Kinds

/-- one class attribute as `cls.__annotations__` / `getattr(cls, name)` show it -/
structure Attr where
  name : Str
  annotation : Option Str
  value : Val
deriving DecidableEq, Repr

/-- Python value of a (normalised) default: the `NoneStr` spelling is `None` at run time -/
def runtimeVal (v : Val) : Val := if isNoneVal v then .none else v

def classView (ir : IR) : List Attr :=
  let n := norm .cls ir
  (n.params.map fun kp => { name := kp.1, annotation := kp.2.typ, value := runtimeVal (kp.2.default.getD .none) }) ++
  (match n.returns with
   | some r => [{ name := retName, annotation := r.typ, value := runtimeVal (r.default.getD .none) }]
   | none => [])

/-- one parameter as `inspect.signature` shows it -/
structure SigParam where
  name : Str
  kwOnly : Bool
  annotation : Option Str        -- only with inline types
  default : Val                  -- every emitted parameter has a default (`None` when the description has none)
deriving DecidableEq, Repr

/-- plain function / instance method / class method -/
inductive FType where
  | static | self | cls
deriving DecidableEq, Repr

/-- `function_type = function_type or intermediate_repr["type"]`: the kind the caller passes wins, the
    description's own kind is the fallback -/
def effectiveType (given : Option FType) (irType : FType) : FType := given.getD irType

/-- the leading parameter of the emitted `def` -/
def receiverOf : FType → Option Str
  | .static => none
  | .self => some ['s', 'e', 'l', 'f']
  | .cls => some ['c', 'l', 's']

structure Sig where
  params : List SigParam
  hasVarKw : Bool
  returnAnnotation : Option Str
  receiver : Option Str := none
deriving DecidableEq, Repr

def sigView (inlineTypes kwOnly : Bool) (ir : IR) (ft : FType := .static) : Sig :=
  let n := norm (.func inlineTypes) ir
  let ps := n.params.filter fun kp => !kwargsName kp.1
  { receiver := receiverOf ft,
    params := ps.map fun kp =>
      { name := kp.1, kwOnly := kwOnly, annotation := if inlineTypes then kp.2.typ else none,
        default := runtimeVal (kp.2.default.getD .none) },
    hasVarKw := n.params.any fun kp => kwargsName kp.1,
    returnAnnotation := if inlineTypes then (n.returns.bind (·.typ)) else none }

/-- one `add_argument` action as a real `ArgumentParser` holds it -/
structure ArgOpt where
  dest : Str
  typeName : Option Str          -- `action.type.__name__`
  choices : Bool                 -- a `choices` tuple is present (its content is the Literal's members)
  append : Bool                  -- `action='append'`
  required : Bool
  default : Option Val           -- explicit default only
deriving DecidableEq, Repr

def scalarTypeKw (t : Str) : Option Str := if t == tStr then none else some t

def argOpt (name : Str) (p : Param) : ArgOpt :=
  let t := p.typ.getD []
  let explicit : Option Val := match p.default with | some v => if isNoneVal v then none else some v | none => none
  if isScalar t then
    { dest := name, typeName := scalarTypeKw t, choices := false, append := false,
      required := if t == tBool then explicit.isSome else true, default := explicit }
  else match optionalInner t with
    | some i => { dest := name, typeName := scalarTypeKw i, choices := false, append := false, required := false, default := explicit }
    | none => match listInner t with
      | some i => { dest := name, typeName := some i, choices := false, append := true, required := true, default := explicit }
      | none => { dest := name, typeName := none, choices := isLiteral t, append := false, required := true, default := explicit }

def argView (ir : IR) : List ArgOpt := ir.params.map fun kp => argOpt kp.1 kp.2

/-- the emitted `def` starts with `self` / `cls` exactly for an instance / class method, whether the kind was
    passed by the caller or taken from the description -/
theorem sigView_receiver (i k : Bool) (ir : IR) (given : Option FType) (irType : FType) :
    (sigView i k ir (effectiveType given irType)).receiver =
      receiverOf (match given with | some t => t | none => irType) := by
  cases given <;> rfl

theorem receiverOf_static_iff (t : FType) : receiverOf t = none ↔ t = .static := by
  cases t <;> simp [receiverOf]

/-- the branches of `argOpt` differ in the type keyword, `choices`, `append` and `required`; every one of them carries
    the name and the explicit default -/
theorem argOpt_dest_default (name : Str) (p : Param) :
    (argOpt name p).dest = name ∧
    (argOpt name p).default = (match p.default with | some v => if isNoneVal v then none else some v | none => none) := by
  unfold argOpt
  generalize (match p.default with | some v => if isNoneVal v then none else some v | none => none) = explicit
  dsimp only
  split
  · exact ⟨rfl, rfl⟩
  · split
    · exact ⟨rfl, rfl⟩
    · split <;> exact ⟨rfl, rfl⟩

theorem argView_dests (ir : IR) : (argView ir).map (·.dest) = ir.params.map (·.1) := by
  unfold argView
  rw [List.map_map]
  exact List.map_congr_left fun kp _ => (argOpt_dest_default kp.1 kp.2).1

/-- as many actions as parameters (`argView_dests`: with the parameters' names, in order) -/
theorem argView_length (ir : IR) : (argView ir).length = ir.params.length := by simp [argView]

/-- an explicit (non-None) default reaches the parser with its value and type -/
theorem argOpt_default (name : Str) (p : Param) (v : Val) (h : p.default = some v) (hn : isNoneVal v = false) :
    (argOpt name p).default = some v := by
  rw [(argOpt_dest_default name p).2, h]
  simp only [hn]; rfl

/-- an `Optional[...]` type makes the option not required (for the types argparse can express) -/
theorem argOpt_optional_not_required (name : Str) (p : Param) (t i : Str) (ht : p.typ = some t)
    (hs : isScalar t = false) (ho : optionalInner t = some i) : (argOpt name p).required = false := by
  unfold argOpt
  simp [ht, hs, ho]

theorem classView_names (ir : IR) :
    (classView ir).map (·.name) = ir.params.map (·.1) ++ (if ir.returns.isSome then [retName] else []) := by
  rw [classView, List.map_append, List.map_map]
  congr 1
  · exact chain_names [.cls] ir
  · simp only [norm]; cases ir.returns <;> rfl

end Views
end Py
