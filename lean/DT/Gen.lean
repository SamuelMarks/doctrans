import DT.Str
/-! C19: the assembly step of `gen.gen` — the order of the top-level statements of the generated module
    (imports hoisted, `__future__` imports first, everything else in the order it was produced). `hoist` says the order
    outright; the code gets it from `sorted(imports, key=is_future, reverse=True)`. Python's sort is stable, also with
    `reverse=True` (equal keys keep their original order): it is modelled as a stable insertion sort on the Boolean key
    and shown to give the same (`hoist_eq_sorted`). -/
namespace Py
namespace Gen

inductive GStmt where
  | imp (future : Bool) (text : Str)     -- `import x` / `from x import y`; `future` = from __future__
  | other (name : Option Str) (text : Str)   -- anything else; `name` = the name a def/class statement defines
deriving DecidableEq, Repr

def isFuture : GStmt → Bool | .imp true _ => true | _ => false
def isPlainImp : GStmt → Bool | .imp false _ => true | _ => false
def isOther : GStmt → Bool | .other _ _ => true | _ => false

/-- `sorted(imports, key=is_future, reverse=True) + non-imports` (Python's sort is stable) -/
def hoist (l : List GStmt) : List GStmt := l.filter isFuture ++ l.filter isPlainImp ++ l.filter isOther

def defName : GStmt → Option Str | .other n _ => n | _ => none

/-- the module gen assembles: prepended statements, imports from the named file, one definition per mapping
    entry (named by the template, in mapping order), then `__all__` -/
def genBody (prepend imports : List GStmt) (names : List Str) (tpl : Str → Str) : List GStmt :=
  hoist (prepend ++ imports ++ names.map (fun n => .other (some (tpl n)) []) ++ [.other none ['_', '_', 'a', 'l', 'l', '_', '_']])

theorem isFuture_not_other {x : GStmt} (h : isFuture x = true) : isOther x = false := by
  cases x with
  | imp => rfl
  | other => cases h

theorem isPlainImp_not_other {x : GStmt} (h : isPlainImp x = true) : isOther x = false := by
  cases x with
  | imp => rfl
  | other => cases h

theorem filter_other_hoist (l : List GStmt) : (hoist l).filter isOther = l.filter isOther := by
  have none_of (p : GStmt → Bool) (hp : ∀ {x}, p x = true → isOther x = false) : (l.filter p).filter isOther = [] :=
    List.filter_eq_nil_iff.mpr fun x hx => by simp [hp (List.mem_filter.mp hx).2]
  unfold hoist
  rw [List.filter_append, List.filter_append, none_of isFuture isFuture_not_other,
    none_of isPlainImp isPlainImp_not_other, List.filter_filter]
  simp

theorem hoist_perm (l : List GStmt) : (hoist l).Perm l := by
  induction l with
  | nil => exact .nil
  | cons a t ih =>
    refine List.Perm.trans ?_ (ih.cons a)
    unfold hoist
    rcases a with ⟨_ | _, x⟩ | ⟨n, x⟩ <;>
      simp only [List.filter_cons, isFuture, isPlainImp, isOther, Bool.false_eq_true, if_true, if_false,
        List.cons_append, List.append_assoc]
    · exact List.perm_middle
    · exact .refl _
    · rw [← List.append_assoc, ← List.append_assoc]; exact List.perm_middle

theorem hoist_length (l : List GStmt) : (hoist l).length = l.length := (hoist_perm l).length_eq

/-- imports come first -/
theorem hoist_split (l : List GStmt) :
    ∃ a b, hoist l = a ++ b ∧ (∀ x ∈ a, isOther x = false) ∧ (∀ x ∈ b, isOther x = true) := by
  refine ⟨l.filter isFuture ++ l.filter isPlainImp, l.filter isOther, by simp [hoist], ?_, ?_⟩
  · intro x hx
    simp only [List.mem_append, List.mem_filter] at hx
    rcases hx with ⟨_, h⟩ | ⟨_, h⟩
    · exact isFuture_not_other h
    · exact isPlainImp_not_other h
  · intro x hx
    exact (List.mem_filter.mp hx).2

theorem defName_eq_none {x : GStmt} (h : isOther x = false) : defName x = none := by
  cases x with
  | imp => rfl
  | other => cases h

theorem filterMap_defName_other (l : List GStmt) : (l.filter isOther).filterMap defName = l.filterMap defName := by
  rw [List.filterMap_filter]
  congr 1; funext x
  cases h : isOther x
  · exact (defName_eq_none h).symm
  · rfl

theorem filterMap_defName_hoist (l : List GStmt) : (hoist l).filterMap defName = l.filterMap defName := by
  rw [← filterMap_defName_other, filter_other_hoist, filterMap_defName_other]

/-- **C19**: the generated definitions are exactly one per mapping entry, named by the template, in mapping
    order (provided the prepended text defines nothing itself) -/
theorem genBody_defs (prepend imports : List GStmt) (names : List Str) (tpl : Str → Str)
    (hp : ∀ x ∈ prepend, defName x = none) (hi : ∀ x ∈ imports, isOther x = false) :
    (genBody prepend imports names tpl).filterMap defName = names.map tpl := by
  unfold genBody
  rw [filterMap_defName_hoist, List.filterMap_append, List.filterMap_append, List.filterMap_append,
    List.filterMap_eq_nil_iff.mpr hp, List.filterMap_eq_nil_iff.mpr fun x hx => defName_eq_none (hi x hx),
    List.filterMap_map]
  simp [defName, Function.comp_def]

variable {α : Type}

/-- insert `x` into a list already sorted by descending key, AFTER every element whose key is not smaller (stability) -/
def insertDesc (key : α → Bool) (x : α) : List α → List α
  | [] => [x]
  | y :: ys => if !key y && key x then x :: y :: ys else y :: insertDesc key x ys

/-- stable sort by descending Boolean key: `sorted(l, key=key, reverse=True)` -/
def sortedDesc (key : α → Bool) (l : List α) : List α := l.foldl (fun acc x => insertDesc key x acc) []

/-- the same without `reverse=True` (ascending key): what a dropped `reverse` gives -/
def insertAsc (key : α → Bool) (x : α) : List α → List α
  | [] => [x]
  | y :: ys => if key y && !key x then x :: y :: ys else y :: insertAsc key x ys
def sortedAsc (key : α → Bool) (l : List α) : List α := l.foldl (fun acc x => insertAsc key x acc) []

theorem insertDesc_pass (key : α → Bool) (x : α) (a b : List α) (ha : ∀ y ∈ a, (!key y && key x) = false) :
    insertDesc key x (a ++ b) = a ++ insertDesc key x b := by
  induction a with
  | nil => rfl
  | cons y ys ih =>
    obtain ⟨hy, hys⟩ := List.forall_mem_cons.mp ha
    simp only [List.cons_append, insertDesc, hy, Bool.false_eq_true, if_false, ih hys]

theorem insertDesc_split (key : α → Bool) (x : α) (a b : List α) (ha : ∀ y ∈ a, key y = true) (hb : ∀ y ∈ b, key y = false) :
    insertDesc key x (a ++ b) = if key x then a ++ [x] ++ b else a ++ b ++ [x] := by
  cases hx : key x
  · -- a low key passes the whole list
    simpa [insertDesc] using insertDesc_pass key x (a ++ b) [] (by simp [hx])
  · -- a high key passes the high keys and stops in front of the first low one
    rw [insertDesc_pass key x a b (fun y hy => by simp [ha y hy])]
    cases b with
    | nil => simp [insertDesc]
    | cons y ys => simp [insertDesc, hx, hb y]

/-- the accumulator is always the key-true elements read so far, in their order, then the others in theirs -/
theorem sortedDesc_fold (key : α → Bool) : ∀ (l acc : List α),
    l.foldl (fun acc x => insertDesc key x acc) (acc.filter key ++ acc.filter (fun y => !key y)) =
      (acc ++ l).filter key ++ (acc ++ l).filter (fun y => !key y)
  | [], acc => by simp
  | x :: l, acc => by
    rw [List.foldl_cons, insertDesc_split key x _ _ (fun y hy => (List.mem_filter.mp hy).2)
      (fun y hy => by simpa using (List.mem_filter.mp hy).2), List.append_cons acc x l, ← sortedDesc_fold key l (acc ++ [x])]
    cases hx : key x <;> simp [List.filter_append, hx]

/-- **stable descending sort on a Boolean key = the key-true elements in their order, then the others in theirs** -/
theorem sortedDesc_eq (key : α → Bool) (l : List α) :
    sortedDesc key l = l.filter key ++ l.filter (fun y => !key y) := by
  simpa [sortedDesc] using sortedDesc_fold key l []

def isImp : GStmt → Bool | .imp _ _ => true | _ => false

/-- the assembly as the code writes it: the imports sorted (stable, `__future__` first), then everything else -/
def hoistSorted (l : List GStmt) : List GStmt := sortedDesc isFuture (l.filter isImp) ++ l.filter isOther

theorem isFuture_and_isImp (a : GStmt) : (isFuture a && isImp a) = isFuture a := by
  rcases a with ⟨_ | _, _⟩ | _ <;> rfl

theorem not_isFuture_and_isImp (a : GStmt) : (!isFuture a && isImp a) = isPlainImp a := by
  rcases a with ⟨_ | _, _⟩ | _ <;> rfl

theorem hoist_eq_sorted (l : List GStmt) : hoist l = hoistSorted l := by
  unfold hoistSorted hoist
  rw [sortedDesc_eq, List.filter_filter, List.filter_filter]
  simp only [isFuture_and_isImp, not_isFuture_and_isImp]

/-- a dropped `reverse=True` puts the `__future__` import AFTER the others (the generated module no longer compiles) -/
theorem sortedAsc_witness :
    sortedAsc isFuture [GStmt.imp true ['f'], GStmt.imp false ['o']] = [GStmt.imp false ['o'], GStmt.imp true ['f']] ∧
    sortedDesc isFuture [GStmt.imp false ['o'], GStmt.imp true ['f']] = [GStmt.imp true ['f'], GStmt.imp false ['o']] := by
  decide

end Gen
end Py
