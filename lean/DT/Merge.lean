import DT.ODictLemmas
/-! `parser_utils.ir_merge` on the parameter maps (C07, C12). The order in which Python iterates the *set*
    `other.keys() & target.keys()` is an explicit argument and shown not to matter. `mergeParams` also takes the order of
    `other.keys() - target.keys()`, which did matter before fix ab10a32 (`diff_order_matters`); `irMergeParams`, the
    code since that fix, appends those names in `other`'s order. -/
namespace Py

def truthyStr : Option Str → Bool
  | some s => !s.isEmpty
  | none => false

/-- `x in none_types` for `x = param.get("default")` : absent/None, "None", NoneStr -/
def defaultIsNoneType : Option Val → Bool
  | none => true
  | some .none => true
  | some (.str s) => s == "None".toList || s == noneStr
  | _ => false

/-- `other["default"] not in {None, "None", "(None)"}` (and the key is present) -/
def otherDefaultUsable : Option Val → Bool
  | none => false
  | some .none => false
  | some (.str s) => !(s == "None".toList || s == "(None)".toList)
  | _ => true

/-- the body of the intersection loop for one name -/
def mergeParam (t o : Param) : Param :=
  { doc := if !truthyStr t.doc && truthyStr o.doc then o.doc else t.doc
    typ := if t.typ.isNone && truthyStr o.typ then o.typ else t.typ
    default := if defaultIsNoneType t.default && otherDefaultUsable o.default then o.default else t.default }

def updKey (other : ODict Param) (tgt : ODict Param) (k : Str) : ODict Param :=
  match other.get? k with
  | some o => tgt.map fun kv => if kv.1 == k then (kv.1, mergeParam kv.2 o) else kv
  | none => tgt

def addKey (other : ODict Param) (tgt : ODict Param) (k : Str) : ODict Param :=
  match other.get? k with
  | some o => tgt.set k o
  | none => tgt

/-- `ir_merge` on `params` when both are non-empty; `σi`, `σd` = the orders in which Python happens to iterate
    the intersection and the difference sets (any permutation of those sets) -/
def mergeParams (target other : ODict Param) (σi σd : List Str) : ODict Param :=
  σd.foldl (addKey other) (σi.foldl (updKey other) target)

/-! ### the intersection loop does not depend on the order -/

/-- what one name of the intersection loop does to the entry of `k` -/
def gapFill (other : ODict Param) (k : Str) (t : Param) : Param :=
  match other.get? k with | some o => mergeParam t o | none => t

theorem updKey_eq (other tgt : ODict Param) (a : Str) :
    updKey other tgt a = tgt.map fun kv => (kv.1, if kv.1 = a then gapFill other a kv.2 else kv.2) := by
  unfold updKey gapFill
  cases other.get? a with
  | none => simp
  | some o =>
    refine List.map_congr_left fun kv _ => ?_
    by_cases h : kv.1 = a <;> simp [h]

theorem updKey_comm (other tgt : ODict Param) (a b : Str) (hab : a ≠ b) :
    updKey other (updKey other tgt a) b = updKey other (updKey other tgt b) a := by
  simp only [updKey_eq, List.map_map]
  refine List.map_congr_left fun kv _ => ?_
  by_cases h1 : kv.1 = a
  · simp [h1, hab]
  · simp [h1]

theorem foldl_updKey_eq (other : ODict Param) : ∀ (σ : List Str) (tgt : ODict Param), σ.Nodup →
    σ.foldl (updKey other) tgt = tgt.map fun kv => (kv.1, if kv.1 ∈ σ then gapFill other kv.1 kv.2 else kv.2)
  | [], tgt, _ => by simp
  | a :: σ, tgt, hnd => by
    have ⟨ha, hnd'⟩ := List.nodup_cons.mp hnd
    rw [List.foldl_cons, foldl_updKey_eq other σ _ hnd', updKey_eq, List.map_map]
    refine List.map_congr_left fun kv _ => ?_
    by_cases h : kv.1 = a
    · simp [h, ha]
    · simp [h]

theorem inter_order_irrelevant (other tgt : ODict Param) (σ σ' : List Str) (hp : σ.Perm σ') (hnd : σ.Nodup) :
    σ.foldl (updKey other) tgt = σ'.foldl (updKey other) tgt := by
  apply List.Perm.foldl_eq' hp
  intro x hx y hy z
  by_cases hxy : x = y
  · subst hxy; rfl
  · exact updKey_comm other z x y hxy

/-! ### the difference loop of the code before fix ab10a32 does depend on it: a two-name witness (D2) -/

def wTarget : ODict Param := [(['c'], { doc := some ['x'] })]
def wOther : ODict Param := [(['a'], {}), (['b'], {}), (['c'], {})]

theorem diff_order_matters :
    mergeParams wTarget wOther [['c']] [['a'], ['b']] ≠ mergeParams wTarget wOther [['c']] [['b'], ['a']] := by
  decide +kernel

theorem addKey_keys (other tgt : ODict Param) (k : Str) :
    (addKey other tgt k).map (·.1) = tgt.map (·.1) ∨ (addKey other tgt k).map (·.1) = tgt.map (·.1) ++ [k] := by
  unfold addKey
  cases other.get? k with
  | none => exact Or.inl rfl
  | some o => rw [ODict.keys_set]; split <;> simp

/-! ### `ir_merge` after fix ab10a32: the names missing from the target are appended in `other`'s order -/

def okeys (d : ODict Param) : List Str := d.map (·.1)

/-- the names only `other` has, in `other`'s own order (`for name in other_params: if name not in target_params`) -/
def missingKeys (target other : ODict Param) : List Str := (okeys other).filter fun k => !(okeys target).contains k

/-- `ir_merge(target, other)["params"]`; `σ` = the order in which Python iterates `other.keys() & target.keys()` -/
def irMergeParams (target other : ODict Param) (σ : List Str) : ODict Param :=
  if target.isEmpty then other
  else if other.isEmpty then target
  else mergeParams target other σ (missingKeys target other)

theorem updKey_keys (other tgt : ODict Param) (k : Str) : okeys (updKey other tgt k) = okeys tgt := by
  rw [updKey_eq]; exact ODict.keys_mapVal (fun k' t => if k' = k then gapFill other k t else t) tgt

theorem foldl_updKey_keys (other : ODict Param) (σ : List Str) (tgt : ODict Param) :
    okeys (σ.foldl (updKey other) tgt) = okeys tgt :=
  List.foldlRecOn (motive := fun g => okeys g = okeys tgt) σ _ rfl fun g hg k _ => (updKey_keys other g k).trans hg

/-- **C12 (merge)**: the merged parameters do not depend on the order in which the set of common names is
    iterated, whatever string hashing does -/
theorem irMerge_deterministic (target other : ODict Param) (σ σ' : List Str) (hp : σ.Perm σ') (hnd : σ.Nodup) :
    irMergeParams target other σ = irMergeParams target other σ' := by
  unfold irMergeParams mergeParams
  rw [inter_order_irrelevant other target σ σ' hp hnd]

theorem addKey_fresh (other tgt : ODict Param) (k : Str) (hk : k ∈ okeys other) (hf : k ∉ okeys tgt) :
    okeys (addKey other tgt k) = okeys tgt ++ [k] := by
  obtain ⟨o, ho⟩ := Option.isSome_iff_exists.mp ((ODict.get?_isSome other k).mpr hk)
  unfold addKey okeys
  rw [ho, ODict.keys_set]
  exact if_neg hf

theorem foldl_addKey_keys (other : ODict Param) : ∀ (ks : List Str) (tgt : ODict Param),
    ks.Nodup → (∀ k ∈ ks, k ∈ okeys other ∧ k ∉ okeys tgt) →
    okeys (ks.foldl (addKey other) tgt) = okeys tgt ++ ks
  | [], tgt, _, _ => by simp
  | k :: ks, tgt, hnd, h => by
    have ⟨hnotin, hnd'⟩ := List.nodup_cons.mp hnd
    have ⟨hk, hks⟩ := List.forall_mem_cons.mp h
    have hstep := addKey_fresh other tgt k hk.1 hk.2
    rw [List.foldl_cons, foldl_addKey_keys other ks _ hnd' ?_, hstep, List.append_assoc]; rfl
    intro k' hk'
    refine ⟨(hks k' hk').1, ?_⟩
    rw [hstep, List.mem_append, List.mem_singleton]
    exact fun e => e.elim (hks k' hk').2 fun e => hnotin (e ▸ hk')

theorem missingKeys_nodup (target other : ODict Param) (h : (okeys other).Nodup) : (missingKeys target other).Nodup :=
  List.Pairwise.filter _ h

theorem mem_missingKeys {target other : ODict Param} {k : Str} :
    k ∈ missingKeys target other ↔ k ∈ okeys other ∧ k ∉ okeys target := by
  simp [missingKeys]

theorem irMergeParams_eq (target other : ODict Param) (σ : List Str) (ht : target ≠ []) (ho : other ≠ []) :
    irMergeParams target other σ = mergeParams target other σ (missingKeys target other) := by
  unfold irMergeParams
  rw [if_neg (by simpa using ht), if_neg (by simpa using ho)]

/-- **C07 (no parameter dropped or duplicated; where they end up)**: the merged description has exactly
    the target's names, in the target's order, followed by the names only `other` has, in `other`'s order —
    for every iteration order of the set of common names -/
theorem irMerge_keys (target other : ODict Param) (σ : List Str) (ht : target ≠ []) (ho : other ≠ [])
    (hnd : (okeys other).Nodup) :
    okeys (irMergeParams target other σ) = okeys target ++ missingKeys target other := by
  rw [irMergeParams_eq target other σ ht ho, mergeParams,
    foldl_addKey_keys other _ _ (missingKeys_nodup target other hnd), foldl_updKey_keys]
  intro k hk
  rw [foldl_updKey_keys]
  exact mem_missingKeys.mp hk

/-- **C07 (precedence)**: a step of the intersection loop replaces the entry of a name both sides know by
    `mergeParam` of the two; what wins is said there (prose/type of the target unless absent, the target's default
    unless it is None-like and the other side has a usable one) -/
theorem updKey_at (other tgt : ODict Param) (k : Str) (o : Param) (ho : other.get? k = some o) :
    updKey other tgt k = tgt.map fun kv => if kv.1 == k then (kv.1, mergeParam kv.2 o) else kv := by
  unfold updKey; rw [ho]

/-- D3: with partial documentation the documented parameter comes first, not in signature order -/
theorem documented_first_witness :
    okeys (irMergeParams [(['c'], { doc := some ['x'] })] [(['a'], {}), (['b'], {}), (['c'], {})] [['c']])
      = [['c'], ['a'], ['b']] := by decide +kernel

end Py
