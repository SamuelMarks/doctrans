import DT.ODictLemmas
import DT.DocParse
import DT.EntryDomain
/-! Lemmas of `emit.docstring` and of the parse phase for the numpydoc and google styles, for either style and with or
    without a return entry: the closed form of the emitted text; the entry parsers invert the entry emitters on trimmed,
    single-line entries (what `emit_param_str` writes for (name, type, prose) is read back as that name, type and
    prose); the entry loop on such units; `parse_docstring` assembled from a scan result. -/
namespace Py
namespace DocEmit
open NumpyRT

theorem emitEntries_map (st : Style) (e : Bool) (f : Triple → Str) : ∀ (ts : List Triple),
    (∀ x ∈ ts, emitEntry st x.1 (mkParam x.2.1 x.2.2) e = .ok (f x)) →
    emitEntries st (ts.map entryOf) e = .ok (ts.map f)
  | [], _ => rfl
  | x :: ts, h => by
    simp only [List.map_cons, emitEntries, entryOf, h x (by simp), Res.bind,
      emitEntries_map st e f ts (fun y hy => h y (by simp [hy]))]

/-- the return part of `emit.docstring` -/
def emitReturn (st : Style) (ret : Option Param) (e : Bool) : Res Str :=
  match ret with
  | some r => (emitEntry st retName r e).bind fun l => .ok (['\n'] ++ returnToken st ++ ['\n'] ++ l)
  | none => .ok []

theorem emitDocstring_closed (st : Style) (ir : IR) (e : Bool) (lines : List Str) (rs : Str) (hne : lines ≠ [])
    (hents : emitEntries st ir.params e = .ok lines) (hret : emitReturn st ir.returns e = .ok rs) :
    emitDocstring st ir e = .ok ('\n' :: ir.doc ++ ['\n', '\n', '\n'] ++ argToken st ++
      '\n' :: (joinWith ['\n'] lines ++ ['\n'] ++ rs ++ '\n' :: (if st == .numpydoc then ['\n'] else []))) := by
  unfold emitDocstring
  rw [hents]
  show (emitReturn st ir.returns e).bind _ = _  -- the `match` on `ir.returns` in the definition is `emitReturn`
  rw [hret]
  simp only [Res.bind, List.isEmpty_eq_false_iff.mpr hne, Bool.false_eq_true, if_false, joinWith_cons_ne _ _ _ hne,
    List.append_assoc, List.cons_append, List.nil_append]

end DocEmit

namespace DocParse
open DocEmit DocScan NumpyRT

theorem partitionAt_split (c : Char) (a r : Str) (h : c ∉ a) : partitionAt c (a ++ c :: r) = (a, r, true) := by
  simp only [partitionAt, takeWhile_ne_stop c a r h, List.drop_left]

theorem rstrip_space (s : Str) (hs : Trimmed s) : rstripWs (s ++ [' ']) = s :=
  stripRight_pad pyWs s [' '] (by decide) hs.2

theorem rstrip_keep (s : Str) (c : Char) (hc : pyWs.contains c = false) : rstripWs (s ++ [c]) = s ++ [c] :=
  stripRight_keep pyWs _ (by simpa using hc)

/-- **numpydoc**: the unit `name : typ` / indented prose is read back as that entry -/
theorem parseNumpy_emitted (name t d : Str) (hcolon : ':' ∉ name) (hne : name ≠ []) (hn : Trimmed name)
    (ht : Trimmed t) (hte : t ≠ []) (hd : Trimmed d) :
    parseNumpy [name ++ [' ', ':'] ++ [' '] ++ t, tab4 ++ d] = .ok (some (name, { typ := some t, doc := some d })) := by
  have hsplit : name ++ [' ', ':'] ++ [' '] ++ t = (name ++ [' ']) ++ ':' :: ([' '] ++ t) := by simp
  have hl : lstripWs ([' '] ++ t) = t := stripLeft_pad pyWs [' '] t (by decide) ht.1
  have hdl : lstripWs (tab4 ++ d) = d := stripLeft_pad pyWs tab4 d (by decide) hd.1
  rw [parseNumpy, hsplit]
  simp only [partitionAt_split ':' (name ++ [' ']) ([' '] ++ t) (by simp [hcolon]), rstrip_space name hn, hl]
  simp [hne, hdl, joinWith]

/-- `parseGoogle` on a line cut at its first colon, given what `lstrip` leaves of the two parts (`hs`, `ha`) -/
theorem parseGoogle_line (L A name t d : Str) (hL : ':' ∉ L) (hs : lstripWs L = name ++ [' '] ++ '(' :: (t ++ [')']))
    (ha : lstripWs A = d) (hpn : '(' ∉ name) (hn : Trimmed name) (hor : containsOr t = false) (hd : Trimmed d)
    (hbrace : (decide (d.length > 3) && startsWith d ['{'] && endsWith d ['}']) = false) :
    parseGoogle [L ++ ':' :: A] = .ok (name, { typ := some t, doc := some d }) := by
  have hdrop : (L ++ ':' :: A).drop (L.length + 1) = A := List.drop_length_add_append 1
  have hty : rstripWs (['('] ++ (t ++ [')'])) = ['('] ++ t ++ [')'] := by
    rw [← List.append_assoc, rstrip_keep (['('] ++ t) ')' (by decide)]
  have hsw : (startsWith (['('] ++ t ++ [')']) ['('] && endsWith (['('] ++ t ++ [')']) [')']) = true := by
    simp [startsWith, endsWith]
  have hinner : ((['('] ++ t ++ [')']).drop 1).dropLast = t := by simp
  have hnonempty : (['('] ++ t ++ [')']).isEmpty = false := by simp
  unfold parseGoogle
  simp only [takeWhile_ne_stop ':' L A hL, List.take_left', hdrop, List.contains_eq_mem, List.mem_append, List.mem_cons,
    true_or, or_true, decide_true, Bool.not_true, Bool.false_eq_true, if_false, hs, ha,
    partitionAt_split '(' (name ++ [' ']) (t ++ [')']) (by simp [hpn]), if_true, rstrip_space name hn, hty,
    hnonempty, hsw, hinner, hor, hbrace, joinWith_single, hd.strip_eq]

/-- **google**: the line `  name (typ): prose` is read back as that entry -/
theorem parseGoogle_emitted (name t d : Str)
    (hcn : ':' ∉ name) (hpn : '(' ∉ name) (hct : ':' ∉ t) (hne : name ≠ []) (hn : Trimmed name)
    (hte : t ≠ []) (hor : containsOr t = false) (hd : Trimmed d) (hde : d ≠ [])
    (hbrace : (decide (d.length > 3) && startsWith d ['{'] && endsWith d ['}']) = false) :
    parseGoogle [[' ', ' '] ++ name ++ [' ', '('] ++ t ++ [')', ':', ' '] ++ d] =
      .ok (name, { typ := some t, doc := some d }) := by
  have hline : [' ', ' '] ++ name ++ [' ', '('] ++ t ++ [')', ':', ' '] ++ d =
      ([' ', ' '] ++ (name ++ [' '] ++ '(' :: (t ++ [')']))) ++ ':' :: ([' '] ++ d) := by simp
  rw [hline]
  exact parseGoogle_line _ _ name t d (by simp [hcn, hct])
    (stripLeft_pad pyWs _ _ (by decide) (by
      obtain ⟨x, xs, rfl⟩ := List.exists_cons_of_ne_nil hne
      exact hn.1))
    (stripLeft_pad pyWs [' '] d (by decide) hd.1) hpn hn hor hd hbrace

theorem interpolateReq_plain (d t : Str) (hd : DocOK d) (e : Bool) :
    interpolateReq { typ := some t, doc := some d } false e = .ok { typ := some t, doc := some d } := by
  unfold interpolateReq
  rw [interpolate_nodefault _ d hd rfl e]
  simp [Res.bind]

/-- the style's `_parse` on one unit, as `parseEntries` calls it -/
def parseUnit (style : Style) (u : List Str) : Res (Option (Str × Param)) :=
  match style with
  | .numpydoc => parseNumpy u
  | .google => (parseGoogle u).bind fun x => .ok (some x)

theorem parseEntries_cons_plain (style : Style) (e : Bool) (u : List Str) (us : List (List Str)) (x : Triple)
    (hx : TripleOK' x) (hu : parseUnit style u = .ok (some (x.1, { typ := some x.2.2, doc := some x.2.1 })))
    (rest : ODict Param) (hrest : parseEntries style e false true us false = .ok (rest, false)) :
    parseEntries style e false true (u :: us) false = .ok (entryOf x :: rest, false) := by
  have hsn : setNameAndType (some x.1) { typ := some x.2.2, doc := some x.2.1 } false true =
      .ok (x.1, { typ := some x.2.2, doc := some x.2.1 }) :=
    setNameAndType_plain x.1 x.2.1 (some x.2.2) hx.1.notKwargs hx.2.1.1 (by intro t ht; cases ht; exact hx.2.2)
  unfold parseEntries
  change (if (parseUnit style u == .raises "StopIteration") = true then _ else (parseUnit style u).bind _) = _
  rw [hu]
  simp [Res.bind, interpolateReq_plain x.2.1 x.2.2 hx.2.1.1 e, hsn, hrest, entryOf, mkParam]

/-- a unit the style's `_parse` skips (numpydoc: no name before the colon) -/
theorem parseEntries_cons_skip (style : Style) (e it ww : Bool) (u : List Str) (us : List (List Str)) (flag : Bool)
    (hu : parseUnit style u = .ok none) :
    parseEntries style e it ww (u :: us) flag = parseEntries style e it ww us flag := by
  conv => lhs; unfold parseEntries
  change (if (parseUnit style u == .raises "StopIteration") = true then _ else (parseUnit style u).bind _) = _
  rw [hu]
  simp [Res.bind]

theorem parseEntries_plain (style : Style) (e : Bool) (unit : Triple → List Str) (tail : List (List Str)) :
    ∀ (ts : List Triple), (∀ x ∈ ts, TripleOK' x) →
    (∀ x ∈ ts, parseUnit style (unit x) = .ok (some (x.1, { typ := some x.2.2, doc := some x.2.1 }))) →
    parseEntries style e false true tail false = .ok ([], false) →
    parseEntries style e false true (ts.map unit ++ tail) false = .ok (ts.map entryOf, false)
  | [], _, _, ht => ht
  | x :: ts, hok, hu, ht =>
    parseEntries_cons_plain style e _ _ x (hok x (by simp)) (hu x (by simp)) _
      (parseEntries_plain style e unit tail ts (fun y hy => hok y (by simp [hy])) (fun y hy => hu y (by simp [hy])) ht)

/-- `dedupKeepLast` folds `ODict.set` over the pairs -/
theorem dedupKeepLast_nodup (l : List (Str × Param)) (h : (l.map (·.1)).Nodup) : dedupKeepLast l = l :=
  ODict.foldl_set_fresh l [] h

theorem entryOf_names (ts : List Triple) : (ts.map entryOf).map (·.1) = ts.map (·.1) := by
  simp [entryOf, List.map_map, Function.comp_def]

theorem setNameAndType_ret (d t : Str) (hd : DocOK d) (ht : TypOK t) :
    setNameAndType (some retName) { doc := some d, typ := some t, default := none } false true
      = .ok (retName, { doc := some d, typ := some t, default := none }) :=
  setNameAndType_plain retName d (some t) (by rw [String.toList_ofList]; decide) hd fun _ h => Option.some.inj h ▸ ht

theorem parseDocstring_of_scan (st : Style) (text D : Str) (e : Bool) (units : List (List Str)) (rets : Rets)
    (ts : List Triple) (r : Option (Str × Str))
    (hscan : scanPhase st text = .ok { doc := D, args := units, rets := rets, afterward := none })
    (hsec : ∀ u ∈ units, startsSection u = false)
    (hents : parseEntries st e false true units false = .ok (ts.map entryOf, false))
    (hnd : (ts.map (·.1)).Nodup) (hr : RetOK r)
    (hret : match r with
      | none => retsEmpty rets = true
      | some x => retsEmpty rets = false ∧ returnParam st rets = .ok { typ := some x.2, doc := some x.1 }) :
    parseDocstring st text e = .ok (mkIRo D ts r) := by
  unfold parseDocstring
  rw [hscan]
  have hidx : units.findIdx? startsSection = none := List.findIdx?_eq_none_iff.mpr hsec
  simp only [Res.bind, hidx, hents, dedupKeepLast_nodup _ (by rw [entryOf_names]; exact hnd)]
  cases r with
  | none => simp [hret, mkIRo, retParam]
  | some x =>
    -- a plain `doc` comes out of `_set_name_and_type` as it went in, so the test for a list `doc` decides nothing
    simp only [hret.1, hret.2, Bool.false_eq_true, if_false, setNameAndType_ret x.1 x.2 (hr x rfl).1 (hr x rfl).2, ite_self,
      interpolateReq_plain x.1 x.2 (hr x rfl).1 e]
    rfl

end DocParse
end Py
