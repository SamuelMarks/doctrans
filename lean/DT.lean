-- model files
import DT.Str
import DT.Defaults
import DT.Rest
import DT.DocEmit
import DT.DocScan
import DT.DocParse
import DT.ToDocstring
import DT.FuncDoc
import DT.Kinds
import DT.ClassAttr
import DT.ArgAttr
import DT.ClassKind
import DT.FuncKind
import DT.Locate
import DT.Find
-- libraries
import DT.StrLemmas
import DT.ODictLemmas
import DT.DefaultsLemmas
-- C17
import DT.C17
import DT.C17Float
-- the domain of the docstring theorems
import DT.EntryDomain
-- ReST
import DT.RestLines
import DT.RestProofs
import DT.RestParse
import DT.RestRT
-- numpydoc / google
import DT.DocScanTheorems
import DT.DocParseTheorems
import DT.NumpyRT
import DT.GoogleRT
-- _set_name_and_type, wrapping, the to_docstring chain
import DT.SetNameIdem
import DT.Wrap
import DT.Unwrap
import DT.ToDocstringTheorems
import DT.CleandocTheorems
import DT.FuncDocTheorems
import DT.FuncDocRT
-- non-vacuity
import DT.DocstringExamples
import DT.GroundTruthExample
-- kinds
import DT.KindsTheorems
import DT.ClassAttrTheorems
import DT.FuncAttr
import DT.ArgAttrTheorems
import DT.Refine
import DT.ClassKindTheorems
-- trees
import DT.LocTheorems
import DT.FindTheorems
import DT.Body
-- merge, signatures, gen, views
import DT.Merge
import DT.MergeContent
import DT.Sig
import DT.Gen
import DT.Views
import DT.Shared
import DT.StmtChain
-- files
import DT.FsSync
import DT.FsBuffered
import DT.Cli
import DT.Conform
import DT.GroundTruth
