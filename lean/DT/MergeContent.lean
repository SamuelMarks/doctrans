import DT.Merge
/-! C07, the CONTENT of the merge (`parser_utils.ir_merge`, target = what the docstring says, other = what the signature
    says), whatever order the set of common names is iterated in. -/
namespace Py
namespace MergeContent

open ODict in
theorem get?_foldl_updKey (other : ODict Param) (σ : List Str) (tgt : ODict Param) (k : Str) (hσ : σ.Nodup) :
    (σ.foldl (updKey other) tgt).get? k = if k ∈ σ then (tgt.get? k).map (gapFill other k) else tgt.get? k := by
  rw [foldl_updKey_eq other σ tgt hσ, get?_mapVal fun k t => if k ∈ σ then gapFill other k t else t]
  split
  · rfl
  · exact Option.map_id'

open ODict in
theorem get?_foldl_addKey (other : ODict Param) : ∀ (σ : List Str) (tgt : ODict Param) (k : Str),
    (∀ a ∈ σ, (other.get? a).isSome) →
    (σ.foldl (addKey other) tgt).get? k = if k ∈ σ then other.get? k else tgt.get? k
  | [], tgt, k, _ => by simp
  | a :: σ, tgt, k, h => by
    obtain ⟨o, ho⟩ := Option.isSome_iff_exists.mp (h a (by simp))
    rw [List.foldl_cons, get?_foldl_addKey other σ _ k (fun b hb => h b (by simp [hb])), addKey, ho, get?_set]
    by_cases hks : k ∈ σ
    · simp [hks]
    · by_cases hka : k = a <;> simp [hks, hka, ho]

/-- **C07 (what every merged entry holds)**: `σ` = the order in which Python iterates the set of common names (any
    duplicate-free list holding exactly them). For every name `k`:
    * known to both: the documented entry, its gaps filled from the signature (`mergeParam`: prose and type of the
      docstring win when present; the documented default wins unless it is absent / None);
    * known to the docstring only: the documented entry, untouched;
    * known to the signature only: the signature's entry. -/
theorem irMerge_get (target other : ODict Param) (σ : List Str) (ht : target ≠ []) (ho : other ≠ [])
    (hσ : σ.Nodup) (hmem : ∀ k, k ∈ σ ↔ (k ∈ okeys target ∧ k ∈ okeys other)) (k : Str) :
    (irMergeParams target other σ).get? k =
      match target.get? k, other.get? k with
      | some t, some o => some (mergeParam t o)
      | some t, none => some t
      | none, o => o := by
  rw [irMergeParams_eq target other σ ht ho, mergeParams,
    get?_foldl_addKey other _ _ k (fun a ha => (ODict.get?_isSome other a).mpr (mem_missingKeys.mp ha).1),
    get?_foldl_updKey other σ target k hσ]
  -- membership in the key lists is `isSome` of the lookups: what is left is a case split on the two lookups
  simp only [mem_missingKeys, hmem, okeys, ← ODict.get?_isSome]
  cases target.get? k <;> cases hog : other.get? k <;> simp [gapFill, hog]

/-- documented information takes precedence: prose and type of the docstring survive whenever they are there, a
    documented default that is a value survives too -/
theorem mergeParam_precedence (t o : Param) :
    (truthyStr t.doc = true → (mergeParam t o).doc = t.doc) ∧
    (t.typ.isSome = true → (mergeParam t o).typ = t.typ) ∧
    (defaultIsNoneType t.default = false → (mergeParam t o).default = t.default) := by
  refine ⟨?_, ?_, ?_⟩
  · intro h; simp [mergeParam, h]
  · intro h
    cases ht : t.typ with
    | none => simp [ht] at h
    | some x => simp [mergeParam, ht]
  · intro h; simp [mergeParam, h]

/-- the signature fills the gaps, where the docstring is silent -/
theorem mergeParam_fills (t o : Param) :
    (truthyStr t.doc = false → truthyStr o.doc = true → (mergeParam t o).doc = o.doc) ∧
    (t.typ = none → truthyStr o.typ = true → (mergeParam t o).typ = o.typ) ∧
    (defaultIsNoneType t.default = true → otherDefaultUsable o.default = true → (mergeParam t o).default = o.default) := by
  refine ⟨?_, ?_, ?_⟩
  · intro h1 h2; simp [mergeParam, h1, h2]
  · intro h1 h2; simp [mergeParam, h1, h2]
  · intro h1 h2; simp [mergeParam, h1, h2]

/-- non-vacuity / illustration: `a` documented with prose only (the signature gives type and default), `b` documented
    with the default 0 (the signature says 7: the documented zero stays), `c` known to the signature only -/
def exT : ODict Param := [(['a'], { doc := some ['x'] }), (['b'], { doc := some ['y'], default := some (.int false ['0']) })]
def exO : ODict Param := [(['a'], { typ := some ['i', 'n', 't'], default := some (.int false ['5']) }),
  (['b'], { default := some (.int false ['7']) }), (['c'], { default := some (.int false ['1']) })]

example : irMergeParams exT exO [['b'], ['a']] =
    [(['a'], { doc := some ['x'], typ := some ['i', 'n', 't'], default := some (.int false ['5']) }),
     (['b'], { doc := some ['y'], default := some (.int false ['0']) }),
     (['c'], { default := some (.int false ['1']) })] := by decide +kernel

example (k : Str) : (irMergeParams exT exO [['b'], ['a']]).get? k =
    match exT.get? k, exO.get? k with
    | some t, some o => some (mergeParam t o)
    | some t, none => some t
    | none, o => o :=
  irMerge_get exT exO [['b'], ['a']] (by decide) (by decide) (by decide)
    (by intro k; simp only [exT, exO, okeys, List.map_cons, List.map_nil, List.mem_cons, List.not_mem_nil, or_false]
        constructor
        · rintro (h | h) <;> subst h <;> simp
        · rintro ⟨h1, _⟩; rcases h1 with h | h <;> simp [h]) k

end MergeContent
end Py
