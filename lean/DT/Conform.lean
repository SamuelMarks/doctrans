/-! The per-file decision of `conformance._conform_filename` (as repaired by fixes ba87bc1,
    9bf78c0) over what it observes, and the laws that make `sync` idempotent and its report truthful. -/
namespace Conform

/-- what `_conform_filename` observes about one target file -/
structure Obs where
  fileExists : Bool    -- `path.isfile(filename)`
  found : Bool         -- `find_in_ast(search, parsed_ast) is not None`
  cmpEq : Bool         -- `cmp_ast(original_node, replacement_node)`
  replaced : Bool      -- `rewrite_at_query.replaced` after the visit
  sameProgram : Bool   -- the re-rendered module is the same program as the text on disk (`emit._same_module`)
deriving DecidableEq, Repr

inductive Action where
  | create     -- `emit.file(..., mode="wt")` of a new file
  | append     -- `emit.file(..., mode="a")`
  | rewrite    -- `emit.file(parsed_ast, mode="wt")` that really writes
  | none
deriving DecidableEq, Repr

/-- (what is done to the file, what is reported as "changed") -/
def decide (o : Obs) : Action × Bool :=
  if !o.fileExists then (.create, true)
  else if !o.found then (.append, true)
  else if o.cmpEq then (.none, false)
  else if !o.replaced then (.none, false)
  else if o.sameProgram then (.none, false)
  else (.rewrite, true)

/-- the report is true exactly when the file is written -/
theorem report_iff_written (o : Obs) : (decide o).2 = true ↔ (decide o).1 ≠ .none := by
  fun_cases decide o <;> simp

/-- before fix ba87bc1 the report followed `replaced`, not the bytes: kept as the record of D14 -/
def decideOld (o : Obs) : Action × Bool :=
  if !o.fileExists then (.create, true)
  else if !o.found then (.append, true)
  else if o.cmpEq then (.none, false)
  else if !o.replaced then (.none, false)
  else (.rewrite, true)

/-- D14: with `cmp_ast` never true (3.12: `type_params`) an up-to-date file was rewritten and reported -/
theorem decideOld_reports_unchanged_file :
    decideOld { fileExists := true, found := true, cmpEq := false, replaced := true, sameProgram := true }
      = (.rewrite, true) := by decide

theorem decide_leaves_unchanged_file (o : Obs) (h : o.sameProgram = true) (he : o.fileExists = true)
    (hf : o.found = true) : decide o = (.none, false) := by
  unfold decide
  cases o.cmpEq <;> cases o.replaced <;> simp [h, he, hf]

/-- the observation a file gives on the NEXT sync with the same truth, under the laws the lower layers
    provide (`LawsK` in `GroundTruth`): the file exists; the definition just written is found
    (`find_single`, `find_append`, `find_replace`); re-rendering reproduces the same program (`read_render`) -/
def nextObs (o : Obs) (cmpEq' replaced' : Bool) : Obs :=
  { fileExists := true, found := true, cmpEq := cmpEq', replaced := replaced', sameProgram := true }

/-- **C10 (idempotence + truthful report), decision level**: on the observation `nextObs` assumes, whatever
    `cmp_ast`/`RewriteAtQuery` answer the second time, the second sync does not write the file and reports it
    unchanged (the first sync enters only through those assumptions: `nextObs` ignores `o`). -/
theorem second_sync_noop (o : Obs) (c r : Bool) : decide (nextObs o c r) = (.none, false) :=
  decide_leaves_unchanged_file _ rfl rfl rfl

/-- any number of further syncs; `answers` = what `cmp_ast`/`RewriteAtQuery` answer each time -/
def syncs : Nat → Obs → List (Bool × Bool) → List (Action × Bool)
  | 0, _, _ => []
  | _ + 1, _, [] => []
  | n + 1, o, (c, r) :: rest => decide (nextObs o c r) :: syncs n (nextObs o c r) rest

theorem later_syncs_noop : ∀ (n : Nat) (o : Obs) (answers : List (Bool × Bool)),
    ∀ x ∈ syncs n o answers, x = (.none, false)
  | 0, _, _ => by intro x hx; simp [syncs] at hx
  | _ + 1, _, [] => by intro x hx; simp [syncs] at hx
  | n + 1, o, (c, r) :: rest => by
    intro x hx
    simp only [syncs, List.mem_cons] at hx
    rcases hx with h | h
    · rw [h]; exact second_sync_noop o c r
    · exact later_syncs_noop n _ rest x h

end Conform
