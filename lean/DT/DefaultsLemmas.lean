import DT.StrLemmas
/-! Tools for the defaults codec (`Defaults.lean`): telling strings apart by a Boolean test, strings whose ends
    pass a test, the sign-less case of the sign functions, the tables with their literals decoded, where the announcement
    is found. -/
namespace Py

/-! ### telling apart by a test

Every "a digit is not `'N'`, not a bracket, not in the strip set" and every "this value text is not the literal
`None`" below is one of these, with the fact about the constant side closed by `decide`. -/

theorem ne_of_test {α : Type} (f : α → Bool) {a b : α} (ha : f a = true) (hb : f b = false) : a ≠ b :=
  ne_of_apply_ne f (by rw [ha, hb]; decide)

theorem not_contains_of_test {α : Type} [BEq α] [LawfulBEq α] (f : α → Bool) {a : α} (ha : f a = true)
    {l : List α} (hl : l.any f = false) : l.contains a = false :=
  Bool.eq_false_iff.mpr fun h => List.any_eq_false.mp hl a (List.contains_iff_mem.mp h) ha

theorem beq_false_of_test {α : Type} [BEq α] [LawfulBEq α] (f : α → Bool) {a b : α} (ha : f a = true)
    (hb : f b = false) : (a == b) = false :=
  beq_eq_false_iff_ne.mpr (ne_of_test f ha hb)

theorem isBracket_eq_contains (c : Char) : isBracket c = ['{', '[', '(', ')', ']', '}'].contains c := by
  simp only [isBracket, List.contains_cons, List.contains_nil, Bool.or_false, Bool.or_assoc]

/-- what the scan asks of a character, for a digit -/
theorem digit_plain {c : Char} (h : isAsciiDigit c = true) : (c == '.') = false ∧ isBracket c = false :=
  ⟨beq_false_of_test _ h (by decide), isBracket_eq_contains c ▸ not_contains_of_test _ h (by decide)⟩

theorem digit_unsigned {c : Char} (h : isAsciiDigit c = true) : c ≠ '-' ∧ c ≠ '+' :=
  ⟨ne_of_test _ h (by decide), ne_of_test _ h (by decide)⟩

theorem all_head {p : Char → Bool} {s : Str} (h : s.all p = true) (c : Char) (hc : s.head? = some c) : p c = true :=
  List.all_eq_true.mp h c (List.mem_of_mem_head? hc)

theorem all_last {p : Char → Bool} {s : Str} (h : s.all p = true) (c : Char) (hc : s.getLast? = some c) :
    p c = true :=
  List.all_eq_true.mp h c (List.mem_of_mem_getLast? hc)

theorem isDecimal_iff {d : Str} : isDecimal d = true ↔ d ≠ [] ∧ d.all isAsciiDigit = true := by
  cases d <;> simp [isDecimal]

theorem dropSign_unsigned {c : Char} (t : Str) (h : c ≠ '-' ∧ c ≠ '+') : dropSign (c :: t) = c :: t := by
  simp [dropSign, h.1, h.2]

theorem splitSign_unsigned {c : Char} (t : Str) (h : c ≠ '-' ∧ c ≠ '+') :
    splitSign (c :: t) = (false, c :: t) := by
  simp [splitSign, h.1, h.2]

theorem isIntTok_unsigned {c : Char} (t : Str) (h : c ≠ '-' ∧ c ≠ '+') :
    isIntTok (c :: t) = isDecimal (c :: t) := by
  simp [isIntTok, h.1, h.2]

theorem isDecimal_cons_nondigit {c : Char} (t : Str) (h : isAsciiDigit c = false) : isDecimal (c :: t) = false := by
  simp [isDecimal, h]

theorem not_number_of_head {c : Char} (t : Str) (hd : isAsciiDigit c = false) (hs : c ≠ '-' ∧ c ≠ '+')
    (hdot : c ≠ '.') : isIntTok (c :: t) = false ∧ isFloatTok (c :: t) = false := by
  refine ⟨(isIntTok_unsigned t hs).trans (isDecimal_cons_nondigit t hd), ?_⟩
  unfold isFloatTok
  simp only [dropSign_unsigned t hs, List.takeWhile_cons, List.dropWhile_cons, hd, Bool.false_eq_true, if_false]
  split
  · rename_i h; exact absurd (List.cons.inj h).1 hdot
  · rfl

/-! ### the tables: scalar type names, the spellings of None, the literals, the constructors

The literals of the tables are turned into character lists here, once (a literal is `String.ofList` of its
characters: `String.toList_ofList`); the callers' side conditions are about character lists. -/

theorem scalar_simple : simpleTypes.contains "int".toList = true ∧ simpleTypes.contains "float".toList = true
    ∧ simpleTypes.contains "str".toList = true := by
  unfold simpleTypes
  rw [String.toList_ofList, String.toList_ofList, String.toList_ofList, String.toList_ofList, String.toList_ofList]
  decide

theorem not_noneType (f : Str → Bool) {t : Str} (ht : f t = true)
    (hk : [['N', 'o', 'n', 'e'], noneStr].any f = false) : noneTypes.contains t = false := by
  refine not_contains_of_test f ht ?_
  unfold noneTypes
  rw [String.toList_ofList, String.toList_ofList]
  exact hk

theorem not_keyword (f : Str → Bool) {t : Str} (ht : f t = true)
    (hk : [['N', 'o', 'n', 'e'], ['T', 'r', 'u', 'e'], ['F', 'a', 'l', 's', 'e']].any f = false) :
    (t == "None".toList) = false ∧ (t == "True".toList) = false ∧ (t == "False".toList) = false := by
  simp only [List.any_cons, List.any_nil, Bool.or_false, Bool.or_eq_false_iff] at hk
  rw [String.toList_ofList, String.toList_ofList, String.toList_ofList]
  exact ⟨beq_false_of_test f ht hk.1, beq_false_of_test f ht hk.2.1, beq_false_of_test f ht hk.2.2⟩

theorem coerce_int_int (n : Bool) (d : Str) : coerce "int".toList (.int n d) = .ok (.int n d) := by
  unfold coerce; rw [String.ofList_toList]; rfl

theorem coerce_float_float (t : Str) : coerce "float".toList (.float t) = .ok (.float t) := by
  unfold coerce; rw [String.ofList_toList]; rfl

theorem coerce_str_str (s : Str) : coerce "str".toList (.str s) = .ok (.str s) := by
  unfold coerce; rw [String.ofList_toList]; rfl

/-- what `set_default_doc` puts in front of the value -/
def announce : Str := [' ', 'D', 'e', 'f', 'a', 'u', 'l', 't', 's', ' ', 't', 'o', ' ']
def phrase0 : Str := ['d', 'e', 'f', 'a', 'u', 'l', 't', 's', ' ', 't', 'o', ' ']
theorem phrase0_eq : "defaults to ".toList = phrase0 := String.toList_ofList
theorem phrases_eq : phrases = [phrase0, "defaults to\n".toList, "Default value is ".toList, "Default:".toList] := by
  unfold phrases; rw [phrase0_eq]
theorem announce_len : announce.length = 13 := by rfl
theorem announce_fold : casefold announce.tail = casefold phrase0 := by decide

theorem locate_cons_of_found (line p : Str) (ps : List Str) (i : Nat) (h : findCI p line = some i) :
    locate line (p :: ps) = some (i, i + p.length) := by
  have hle : (casefold p).length ≤ (casefold (line.drop i)).length := (findCI_some_prefix p line i h).length_le
  simp only [casefold, List.length_map, List.length_drop] at hle
  rw [locate, if_neg (by omega), h]

theorem locate_none_of (d : Str) : ∀ ps : List Str, (∀ p ∈ ps, findCI p d = none) → locate d ps = none
  | [], _ => rfl
  | p :: ps, h => by
    have := locate_none_of d ps fun q hq => h q (List.mem_cons_of_mem _ hq)
    simp only [locate, h p (List.mem_cons_self ..), this]
    split <;> rfl

theorem locate_phrases_none (d : Str) (h : containsSub (casefold d) ['d', 'e', 'f', 'a', 'u', 'l', 't'] = false) :
    locate d phrases = none := by
  have hp : ∀ p ∈ phrases, (['d', 'e', 'f', 'a', 'u', 'l', 't'] : Str).isPrefixOf (casefold p) = true := by
    unfold phrases
    rw [String.toList_ofList, String.toList_ofList, String.toList_ofList, String.toList_ofList]
    decide
  exact locate_none_of d phrases fun p hpm => findCI_none_of_sub p d _ (List.isPrefixOf_iff_prefix.mp (hp p hpm)) h

theorem Res.bind_eq_ok {α β : Type} {x : Res α} {f : α → Res β} {b : β} (h : x.bind f = .ok b) :
    ∃ a, x = .ok a ∧ f a = .ok b := by
  cases x <;> first | exact ⟨_, rfl, h⟩ | cases h

theorem extract_none (d : Str) (h : locate d phrases = none) (typ : Option Str) (e : Bool) :
    extractDefault d typ e = .ok ⟨d, none⟩ := by
  unfold extractDefault; rw [h]

end Py
