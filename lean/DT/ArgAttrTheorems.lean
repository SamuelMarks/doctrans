import DT.ArgAttr
import DT.ClassAttrTheorems
import DT.DefaultsLemmas
/-! `argRT` (statement level: `param2argparse_param` then `parse_out_param`) agrees with `Kinds.normArgparseParam`
    (interface level) on the typed part of the argparse domain. The round trip is computed once in terms of what
    `_resolve_arg` answered (`argRT_lit`, `argRT_none`, `argRT_noneStr`); the staged theorems by shape of the declared
    type are its instances, `argRT_dom` collects them for both states of `require_default`. -/
namespace Py
namespace ArgAttr
open Kinds ClassAttr

theorem str_beq_eq (a b : Str) (h : List.beq a b = true) : a = b :=
  eq_of_beq (show (a == b) = true from h)

theorem str_beq_refl (a : Str) : List.beq a a = true :=
  show (a == a) = true from beq_self_eq_true a

/-- the derived `==` of `Val` is equality (`firstForm` and `canonOpt` compare defaults with `==`) -/
instance : LawfulBEq Val where
  eq_of_beq := by
    intro a b h
    cases a <;> cases b <;> simp [BEq.beq, instBEqVal.beq] at h <;> simp [h]
    · exact str_beq_eq _ _ h.2
    · exact str_beq_eq _ _ h
    · exact str_beq_eq _ _ h
  rfl := by intro a; cases a <;> simp [BEq.beq, instBEqVal.beq, str_beq_refl]

/-- prose that announces no default (then `extract_default` leaves it alone) and is not empty (then it is emitted
    as `help=`) -/
def plainDoc (d : Str) : Prop := locate d phrases = none ∧ d ≠ []

/-- a string default the argparse kind carries verbatim: `set_value` leaves it alone and it is not code -/
def strPlain (s : Str) : Prop := quoteDelimited s = false ∧ codeQuoted s = false

def litOk : Val → Prop
  | .str s => strPlain s
  | .none => False
  | _ => True

theorem setValue_lit (v : Val) (h : litOk v) : setValue v = v := by
  cases v <;> first | exact setValue_plain _ h.1 | exact h.elim | rfl

/-- `typeName` spells the names as string literals; `String.toList_ofList` reads one without decoding it -/
theorem isScalar_typeName : (v : Val) → litOk v → isScalar (typeName v) = true
  | .int _ _, _ => (isScalar_iff _).mpr (.inl String.toList_ofList)
  | .float _, _ => (isScalar_iff _).mpr (.inr (.inl String.toList_ofList))
  | .str _, _ => (isScalar_iff _).mpr (.inr (.inr (.inl String.toList_ofList)))
  | .bool _, _ => (isScalar_iff _).mpr (.inr (.inr (.inr String.toList_ofList)))
  | .none, h => h.elim

theorem infer_lit (v : Val) (typ : Str) (h : litOk v) : inferTypeAndDefault v typ = .ok (some v, some (typeName v)) := by
  cases v with
  | str s => simp only [inferTypeAndDefault, show codeQuoted s = false from h.2, Bool.false_eq_true, if_false]; rfl
  | none => exact h.elim
  | _ => rfl

theorem typAfterNone_scalar (t : Str) (h : isScalar t = true) : typAfterNone t = none :=
  isScalar_cases rfl rfl rfl rfl h

theorem infer_none (typ : Str) (h : isScalar typ = true) : inferTypeAndDefault .none typ = .ok (none, none) := by
  simp [inferTypeAndDefault, typAfterNone_scalar typ h]

theorem infer_noneStr (typ : Str) (h : isScalar typ = true) : inferTypeAndDefault (.str noneStr) typ = .ok (none, none) := by
  have : codeQuoted noneStr = true := by decide
  simp [inferTypeAndDefault, this, typAfterNone_scalar typ h]

/-- the keywords written for a typed entry with plain prose, in terms of what `_resolve_arg` and
    `infer_type_and_default` answered -/
theorem emit_of (name t d : Str) (dflt : Option Val) (edd : Bool) (r : Resolved) (dt : Option Val × Option Str)
    (hr : resolveArg name t (required0Of dflt) = .ok r) (hpl : plainDoc d)
    (hi : inferTypeAndDefault (dvOf dflt none) r.typ = .ok dt) :
    param2argparse name { doc := some d, typ := some t, default := dflt } edd =
      .ok { typ := if dt.2.getD r.typ == tStr && r.action.isNone then none else some (dt.2.getD r.typ),
            choices := r.choices.map (·.map cleanChoice),
            action := r.action, help := some d,
            required := if dt.1.isNone && dflt == some (.str noneStr) then false else r.required,
            default := dt.1.map setValue } := by
  unfold param2argparse
  -- `extract_default` is rewritten away before `simp` touches the binds: where the kernel has to compare two
  -- `(extractDefault ..).bind _` it evaluates `locate _ phrases` as far as it goes, decoding the phrases
  rw [show (some d).getD [] = d from rfl, extract_none d hpl.1 none edd]
  simp only [Option.getD_some, hr, Res.bind, hi, List.isEmpty_eq_false_iff.mpr hpl.2, Bool.false_eq_true, if_false]

theorem emit_lit (name t d : Str) (v : Val) (edd : Bool) (r : Resolved)
    (hr : resolveArg name t true = .ok r) (hpl : plainDoc d) (hv : litOk v) :
    param2argparse name { doc := some d, typ := some t, default := some v } edd =
      .ok { typ := if typeName v == tStr && r.action.isNone then none else some (typeName v),
            choices := r.choices.map (·.map cleanChoice),
            action := r.action, help := some d, required := r.required, default := some v } := by
  have hreq : required0Of (some v) = true := by
    cases v <;> first | rfl | exact absurd hv (by simp [litOk])
  rw [emit_of name t d (some v) edd r _ (hreq ▸ hr) hpl (infer_lit v r.typ hv)]
  simp only [Option.isNone_some, Bool.false_and, Bool.false_eq_true, if_false, Option.getD_some, Option.map_some,
    setValue_lit v hv]

theorem emit_none (name t d : Str) (dflt : Option Val) (edd : Bool) (r : Resolved)
    (hd : dflt = none ∨ dflt = some .none)
    (hr : resolveArg name t false = .ok r) (hpl : plainDoc d) (hs : isScalar r.typ = true) :
    param2argparse name { doc := some d, typ := some t, default := dflt } edd =
      .ok { typ := if r.typ == tStr && r.action.isNone then none else some r.typ,
            choices := r.choices.map (·.map cleanChoice),
            action := r.action, help := some d, required := r.required, default := none } := by
  rcases hd with hd | hd <;> subst hd <;> exact emit_of name t d _ edd r (none, none) hr hpl (infer_none r.typ hs)

/-- the code-quoted `None` is what the other parsers write for "no value" -/
theorem emit_noneStr (name t d : Str) (edd : Bool) (r : Resolved)
    (hr : resolveArg name t true = .ok r) (hpl : plainDoc d) (hs : isScalar r.typ = true) :
    param2argparse name { doc := some d, typ := some t, default := some (.str noneStr) } edd =
      .ok { typ := if r.typ == tStr && r.action.isNone then none else some r.typ,
            choices := r.choices.map (·.map cleanChoice),
            action := r.action, help := some d, required := false, default := none } :=
  emit_of name t d (some (.str noneStr)) edd r (none, none) hr hpl (infer_noneStr r.typ hs)

theorem parse_default (a : AddArg) (d : Str) (v : Val) (rd : Bool) (hh : a.help = some d) (hv : a.default = some v)
    (hc : (typ0Of a.typ == tComplex) = false) :
    parseOutParam a rd false =
      .ok { doc := some d, typ := some (typStage a.choices a.action a.required (typ0Of a.typ)), default := some v } := by
  unfold parseOutParam
  simp only [hc, Bool.false_eq_true, if_false, hh, hv, docOf, Bool.not_false, Bool.true_or, if_true, Res.bind]

theorem parse_nodefault (a : AddArg) (d : Str) (rd : Bool) (hh : a.help = some d) (hv : a.default = none)
    (hpl : plainDoc d) (hc : (typ0Of a.typ == tComplex) = false) :
    parseOutParam a rd false =
      .ok { doc := some d, typ := some (typStage a.choices a.action a.required (typ0Of a.typ)),
            default := fillDefault (typ0Of a.typ) a.required rd } := by
  unfold parseOutParam
  simp only [hc, Bool.false_eq_true, if_false, hh, hv, docOf, Res.bind, extract_none d hpl.1 none false]

/-! the same two with the record written out: with `_` for `a`, the proof given for `hc` is checked against
    `typ0Of ?a.typ` before the rewrite has found `a`, and both sides are unfolded before that check is put off -/

theorem parse_default_kw (typ : Option Str) (ch : Option (List Str)) (act : Option Str) (req : Bool) (d : Str) (v : Val)
    (rd : Bool) (hc : (typ0Of typ == tComplex) = false) :
    parseOutParam { typ := typ, choices := ch, action := act, help := some d, required := req, default := some v } rd false =
      .ok { doc := some d, typ := some (typStage ch act req (typ0Of typ)), default := some v } :=
  parse_default _ d v rd rfl rfl hc

theorem parse_nodefault_kw (typ : Option Str) (ch : Option (List Str)) (act : Option Str) (req : Bool) (d : Str)
    (rd : Bool) (hpl : plainDoc d) (hc : (typ0Of typ == tComplex) = false) :
    parseOutParam { typ := typ, choices := ch, action := act, help := some d, required := req, default := none } rd false =
      .ok { doc := some d, typ := some (typStage ch act req (typ0Of typ)), default := fillDefault (typ0Of typ) req rd } :=
  parse_nodefault _ d rd rfl rfl hpl hc

/-- the `type=` keyword is left out for `str` and read back as `str` -/
theorem typ0_scalar (t : Str) (act : Option Str) (h : isScalar t = true) :
    typ0Of (if (t == tStr && act.isNone) = true then none else some t) = t := by
  cases act <;> exact isScalar_cases rfl rfl rfl rfl h

theorem typ0_not_complex (t : Str) (act : Option Str) (h : isScalar t = true) :
    (typ0Of (if (t == tStr && act.isNone) = true then none else some t) == tComplex) = false := by
  rw [typ0_scalar t act h]
  exact isScalar_cases rfl rfl rfl rfl h

/-- the type the parser builds from the keywords the emitter wrote, for a scalar `type=` -/
def readTyp (r : Resolved) (t : Str) : Str := typStage (r.choices.map (·.map cleanChoice)) r.action r.required t

theorem argRT_lit (name t d : Str) (v : Val) (edd rd : Bool) (r : Resolved)
    (hr : resolveArg name t true = .ok r) (hpl : plainDoc d) (hv : litOk v) :
    argRT name { doc := some d, typ := some t, default := some v } edd rd =
      .ok { doc := some d, typ := some (readTyp r (typeName v)), default := some v } := by
  have hs := isScalar_typeName v hv
  unfold argRT
  rw [emit_lit name t d v edd r hr hpl hv]
  simp only [Res.bind]
  rw [parse_default_kw _ _ _ _ d v rd (typ0_not_complex _ _ hs)]
  simp only [typ0_scalar _ _ hs, readTyp]

theorem argRT_none (name t d : Str) (dflt : Option Val) (edd rd : Bool) (r : Resolved)
    (hd : dflt = none ∨ dflt = some .none) (hr : resolveArg name t false = .ok r) (hpl : plainDoc d)
    (hs : isScalar r.typ = true) :
    argRT name { doc := some d, typ := some t, default := dflt } edd rd =
      .ok { doc := some d, typ := some (readTyp r r.typ), default := fillDefault r.typ r.required rd } := by
  unfold argRT
  rw [emit_none name t d dflt edd r hd hr hpl hs]
  simp only [Res.bind]
  rw [parse_nodefault_kw _ _ _ _ d rd hpl (typ0_not_complex _ _ hs)]
  simp only [typ0_scalar _ _ hs, readTyp]

theorem argRT_noneStr (name t d : Str) (edd rd : Bool) (r : Resolved)
    (hr : resolveArg name t true = .ok r) (hpl : plainDoc d) (hs : isScalar r.typ = true) :
    argRT name { doc := some d, typ := some t, default := some (.str noneStr) } edd rd =
      .ok { doc := some d, typ := some (readTyp { r with required := false } r.typ),
            default := fillDefault r.typ false rd } := by
  unfold argRT
  rw [emit_noneStr name t d edd r hr hpl hs]
  simp only [Res.bind]
  rw [parse_nodefault_kw _ _ _ _ d rd hpl (typ0_not_complex _ _ hs)]
  simp only [typ0_scalar _ _ hs, readTyp]

theorem resolve_scalar (kw : Bool) (t : Str) (r0 : Bool) (h : isScalar t = true) :
    resolveArgK kw t r0 = .ok ⟨none, none, if t == tBool then r0 else true, t⟩ :=
  isScalar_cases rfl rfl rfl rfl h

theorem resolveArg_scalar (name t : Str) (r0 : Bool) (hs : isScalar t = true) (hb : t = tBool → r0 = true) :
    resolveArg name t r0 = .ok ⟨none, none, true, t⟩ := by
  unfold resolveArg
  rw [resolve_scalar _ _ r0 hs]
  by_cases h : t = tBool
  · simp [h, hb h]
  · simp [h]

theorem typStage_required (t : Str) : typStage none none true t = t := by
  simp [typStage]

theorem fill_required (x : Str) (rd : Bool) (h : isScalar x = true) : fillDefault x true rd = some (zeroOf x) := by
  unfold fillDefault isSimple
  simp [h]

/-- **a scalar-typed entry with a literal default of that very type comes back unchanged** -/
theorem argRT_scalar_literal (name d : Str) (v : Val) (edd rd : Bool) (hpl : plainDoc d) (hv : litOk v) :
    argRT name { doc := some d, typ := some (typeName v), default := some v } edd rd =
      .ok { doc := some d, typ := some (typeName v), default := some v } := by
  have hs := isScalar_typeName v hv
  rw [argRT_lit name (typeName v) d v edd rd ⟨none, none, true, typeName v⟩
    (resolveArg_scalar name (typeName v) true hs fun _ => rfl) hpl hv]
  simp only [readTyp, Option.map_none, typStage_required]

/-- **a scalar-typed entry (not bool) without default gets the zero value of its type** -/
theorem argRT_scalar_nodefault (name t d : Str) (dflt : Option Val) (edd rd : Bool) (hpl : plainDoc d)
    (hs : isScalar t = true) (hb : t ≠ tBool) (hd : dflt = none ∨ dflt = some .none) :
    argRT name { doc := some d, typ := some t, default := dflt } edd rd =
      .ok { doc := some d, typ := some t, default := some (zeroOf t) } := by
  rw [argRT_none name t d dflt edd rd ⟨none, none, true, t⟩ hd
    (resolveArg_scalar name t false hs fun h => absurd h hb) hpl hs]
  simp only [readTyp, Option.map_none, typStage_required, fill_required t rd hs]

def tOptional (x : Str) : Str := sOptional ++ ['['] ++ x ++ [']']
def tListOf (x : Str) : Str := sList ++ ['['] ++ x ++ [']']

/-- the name does not end with "kwargs" (such entries are typed `dict` whatever the description says) -/
def notKwargs (name : Str) : Prop := endsWith name ['k', 'w', 'a', 'r', 'g', 's'] = false

/-- a text that starts with a capital O or L passes the tests `_resolve_arg` makes before it looks at the shape
    of the type, the mention of `complex` apart -/
theorem capital_guards (t : Str) (h : t.head? = some 'O' ∨ t.head? = some 'L') :
    startsWith t ['<'] = false ∧ isScalar t = false ∧ (t == tDict) = false ∧ t.isEmpty = false := by
  cases t with
  | nil => simp at h
  | cons c r =>
    have hc : c = 'O' ∨ c = 'L' := by simpa using h
    rcases hc with rfl | rfl <;> exact ⟨rfl, rfl, rfl, rfl⟩

theorem inside_wrapped (pre body : Str) : inside pre (pre ++ ['['] ++ body ++ [']']) = some body := by
  have h2 : endsWith (pre ++ ['['] ++ body ++ [']']) [']'] = true := by
    unfold endsWith; rw [List.reverse_append]; rfl
  unfold inside
  rw [h2, List.append_assoc (pre ++ ['[']), startsWith_append_self]
  simp [List.take_left']

/-- no scalar type name has an x in it, so neither it nor a subscripted type around it mentions `complex` -/
theorem scalar_no_x (x : Str) (h : isScalar x = true) : 'x' ∉ x :=
  isScalar_cases (by decide) (by decide) (by decide) (by decide) h

theorem not_complex_of_no_x (t : Str) (h : 'x' ∉ t) : containsSub t tComplex = false :=
  containsSub_false_of_not_mem 'x' t tComplex (by decide) h

theorem resolveArg_optional (name x : Str) (r0 : Bool) (hk : notKwargs name) (h : isScalar x = true) :
    resolveArg name (tOptional x) r0 = .ok ⟨none, none, false, x⟩ := by
  obtain ⟨g1, g2, g3, g4⟩ := capital_guards (tOptional x) (.inl rfl)
  have hc := not_complex_of_no_x (tOptional x)
    (List.not_mem_append (List.not_mem_append (by decide) (scalar_no_x x h)) (by decide))
  unfold resolveArg resolveArgK
  rw [hk]
  simp only [g1, hc, isSimple, g2, g3, g4, show inside sOptional (tOptional x) = some x from inside_wrapped _ _, h,
    Bool.false_eq_true, if_false, Bool.or_false, if_true, Option.getD_some]

theorem resolveArg_list (name x : Str) (r0 : Bool) (hk : notKwargs name) (h : isScalar x = true) (hb : x ≠ tBool) :
    resolveArg name (tListOf x) r0 = .ok ⟨some sAppend, none, true, x⟩ := by
  obtain ⟨g1, g2, g3, g4⟩ := capital_guards (tListOf x) (.inr rfl)
  have hc := not_complex_of_no_x (tListOf x)
    (List.not_mem_append (List.not_mem_append (by decide) (scalar_no_x x h)) (by decide))
  have hreq : (x == tStr || x == tComplex || x == tInt || x == tFloat) = true :=
    isScalar_cases (fun _ => rfl) (fun _ => rfl) (fun _ => rfl) (absurd rfl) h hb
  unfold resolveArg resolveArgK
  rw [hk]
  simp only [g1, hc, isSimple, g2, g3, g4, show inside sOptional (tListOf x) = none from rfl,
    show inside sList (tListOf x) = some x from inside_wrapped _ _, h, hreq,
    Bool.false_eq_true, if_false, Bool.or_false, if_true, Option.getD_some]

theorem typStage_optional (x : Str) (h : isScalar x = true) : typStage none none false x = tOptional x :=
  isScalar_cases rfl rfl rfl rfl h

theorem typStage_list (x : Str) : typStage none (some sAppend) true x = tListOf x := by
  simp [typStage, tListOf]

theorem fill_notrequired (x : Str) (rd : Bool) (h : isScalar x = true) :
    fillDefault x false rd = if rd then some (.str noneStr) else none := by
  cases rd <;> exact isScalar_cases rfl rfl rfl rfl h

/-- **`Optional[scalar]` without a value** (absent, `None`, or the code-quoted None): the option is not required
    and reads back as `Optional[...]`; its default is the code-quoted None when a default is demanded
    (an earlier option of the same function had one), absent otherwise -/
theorem argRT_optional_nodefault (name x d : Str) (dflt : Option Val) (edd rd : Bool) (hpl : plainDoc d)
    (hk : notKwargs name) (hs : isScalar x = true)
    (hd : dflt = none ∨ dflt = some .none ∨ dflt = some (.str noneStr)) :
    argRT name { doc := some d, typ := some (tOptional x), default := dflt } edd rd =
      .ok { doc := some d, typ := some (tOptional x), default := if rd then some (.str noneStr) else none } := by
  have key : argRT name { doc := some d, typ := some (tOptional x), default := dflt } edd rd =
      .ok { doc := some d, typ := some (readTyp ⟨none, none, false, x⟩ x), default := fillDefault x false rd } := by
    rcases or_assoc.mpr hd with hd | rfl
    · exact argRT_none name (tOptional x) d dflt edd rd _ hd (resolveArg_optional name x false hk hs) hpl hs
    · exact argRT_noneStr name (tOptional x) d edd rd _ (resolveArg_optional name x true hk hs) hpl hs
  rw [key]
  simp only [readTyp, Option.map_none, typStage_optional _ hs, fill_notrequired x rd hs]

/-- **`Optional[scalar]` with a literal default of the inner type** comes back unchanged -/
theorem argRT_optional_literal (name d : Str) (v : Val) (edd rd : Bool) (hpl : plainDoc d)
    (hk : notKwargs name) (hv : litOk v) :
    argRT name { doc := some d, typ := some (tOptional (typeName v)), default := some v } edd rd =
      .ok { doc := some d, typ := some (tOptional (typeName v)), default := some v } := by
  have hs := isScalar_typeName v hv
  rw [argRT_lit name (tOptional (typeName v)) d v edd rd ⟨none, none, false, typeName v⟩
    (resolveArg_optional name (typeName v) true hk hs) hpl hv]
  simp only [readTyp, Option.map_none, typStage_optional _ hs]

/-- **`List[scalar]` (not bool) without default**: `action="append"`, required, the zero value of the element type -/
theorem argRT_list_nodefault (name x d : Str) (dflt : Option Val) (edd rd : Bool) (hpl : plainDoc d)
    (hk : notKwargs name) (hs : isScalar x = true) (hb : x ≠ tBool) (hd : dflt = none ∨ dflt = some .none) :
    argRT name { doc := some d, typ := some (tListOf x), default := dflt } edd rd =
      .ok { doc := some d, typ := some (tListOf x), default := some (zeroOf x) } := by
  rw [argRT_none name (tListOf x) d dflt edd rd ⟨some sAppend, none, true, x⟩ hd
    (resolveArg_list name x false hk hs hb) hpl hs]
  simp only [readTyp, Option.map_none, typStage_list, fill_required x rd hs]

/-- the bool case the domain leaves out (recorded finding D28): no `required=True` is written, the option reads back
    as `Optional[bool]` -/
theorem argRT_bool_nodefault (name d : Str) (edd rd : Bool) (hpl : plainDoc d) :
    argRT name { doc := some d, typ := some tBool, default := none } edd rd =
      .ok { doc := some d, typ := some (tOptional tBool), default := if rd then some (.str noneStr) else none } := by
  have hr : resolveArg name tBool false = .ok ⟨none, none, false, tBool⟩ := by
    unfold resolveArg; rw [resolve_scalar _ tBool false rfl]; rfl
  rw [argRT_none name tBool d none edd rd ⟨none, none, false, tBool⟩ (Or.inl rfl) hr hpl rfl]
  simp only [readTyp, Option.map_none, typStage_optional tBool rfl, fill_notrequired tBool rd rfl]

/-- a choice the emitter and the parser both carry verbatim: no quote mark and no back-slash inside (then its
    `repr` is the text between single quotes), and `set_value` leaves it alone -/
def memberOk (m : Str) : Prop := '\'' ∉ m ∧ '\\' ∉ m ∧ quoteDelimited m = false

def quoted1 (m : Str) : Str := ['\''] ++ m ++ ['\'']

/-- the type text of a string Literal, as `_handle_keyword` writes it -/
def tLiteral (ms : List Str) : Str := handleChoices ms tStr

theorem tLiteral_eq (ms : List Str) :
    tLiteral ms = sLiteralName ++ ['['] ++ joinSep [',', ' '] (ms.map quoted1) ++ [']'] := rfl

/-- **the member scanner inverts the member printer** (any number of members, any fuel that covers them) -/
theorem litMembers_join : ∀ (ms : List Str) (fuel : Nat), ms ≠ [] → (∀ m ∈ ms, memberOk m) → ms.length ≤ fuel →
    litMembers (joinSep [',', ' '] (ms.map quoted1)) fuel = some ms
  | [], _, h, _, _ => absurd rfl h
  | _ :: _, 0, _, _, hf => absurd hf (Nat.not_succ_le_zero _)
  | [m], f + 1, _, hm, _ => by
    obtain ⟨hq, hb, _⟩ := hm m (List.mem_singleton.mpr rfl)
    show litMembers ('\'' :: (m ++ ['\''])) (f + 1) = some [m]
    unfold litMembers
    simp only [beq_self_eq_true, Bool.true_or, if_true, takeWhile_ne_stop '\'' m [] hq,
      dropWhile_ne_stop '\'' m [] hq, List.contains_eq_mem, hb, decide_false, Bool.false_eq_true, if_false]
  | m :: m2 :: rest, f + 1, _, hm, hf => by
    obtain ⟨hq, hb, _⟩ := hm m List.mem_cons_self
    have hj : joinSep [',', ' '] ((m :: m2 :: rest).map quoted1) =
        '\'' :: (m ++ '\'' :: (',' :: ' ' :: joinSep [',', ' '] ((m2 :: rest).map quoted1))) := by
      simp only [List.map_cons, joinSep, quoted1, List.append_assoc, List.cons_append, List.nil_append]
    have ih := litMembers_join (m2 :: rest) f (List.cons_ne_nil _ _) (fun x hx => hm x (List.mem_cons_of_mem _ hx))
      (Nat.le_of_succ_le_succ hf)
    rw [hj]
    unfold litMembers
    simp only [beq_self_eq_true, Bool.true_or, if_true, takeWhile_ne_stop '\'' m _ hq,
      dropWhile_ne_stop '\'' m _ hq, List.contains_eq_mem, hb, decide_false, Bool.false_eq_true, if_false, ih, Option.map_some]

/-- the fuel `resolveArgK` gives `litMembers`, the length of the text plus one, covers the members -/
theorem joinSep_length_ge : ∀ ms : List Str, ms.length ≤ (joinSep [',', ' '] (ms.map quoted1)).length + 1
  | [] => Nat.zero_le _
  | [_] => Nat.succ_le_succ (Nat.zero_le _)
  | m :: m2 :: rest => by
    have := joinSep_length_ge (m2 :: rest)
    simp only [List.map_cons, joinSep, List.length_append, List.length_cons] at this ⊢
    omega

theorem cleanChoice_ok (m : Str) (h : memberOk m) : cleanChoice m = m := by
  unfold cleanChoice
  rw [setValue_plain m h.2.2]

theorem map_cleanChoice (ms : List Str) (h : ∀ m ∈ ms, memberOk m) : ms.map cleanChoice = ms :=
  (List.map_congr_left (g := id) fun m hm => cleanChoice_ok m (h m hm)).trans (List.map_id ms)

theorem resolve_literal (ms : List Str) (r0 : Bool) (h2 : 2 ≤ ms.length) (hm : ∀ m ∈ ms, memberOk m)
    (hc : containsSub (tLiteral ms) tComplex = false) :
    resolveArgK false (tLiteral ms) r0 = .ok ⟨none, some ms, true, tStr⟩ := by
  have hne : ms ≠ [] := by intro e; subst e; simp at h2
  obtain ⟨g1, g2, g3, g4⟩ := capital_guards (tLiteral ms) (.inr rfl)
  have hlit : inside sLiteralName (tLiteral ms) = some (joinSep [',', ' '] (ms.map quoted1)) :=
    (congrArg (inside sLiteralName) (tLiteral_eq ms)).trans (inside_wrapped _ _)
  have hms := litMembers_join ms ((joinSep [',', ' '] (ms.map quoted1)).length + 1) hne hm (joinSep_length_ge ms)
  have h2' : ms.length > 1 := h2
  unfold resolveArgK
  simp only [g1, hc, isSimple, g2, g3, g4, show inside sOptional (tLiteral ms) = none from rfl,
    show inside sList (tLiteral ms) = none from rfl, hlit, hms, h2', Bool.false_eq_true, if_false, Bool.or_false, if_true]
  rfl

theorem resolveArg_literal (name : Str) (ms : List Str) (r0 : Bool) (hk : notKwargs name) (h2 : 2 ≤ ms.length)
    (hm : ∀ m ∈ ms, memberOk m) (hc : containsSub (tLiteral ms) tComplex = false) :
    resolveArg name (tLiteral ms) r0 = .ok ⟨none, some ms, true, tStr⟩ := by
  unfold resolveArg; rw [hk]; exact resolve_literal ms r0 h2 hm hc

theorem typStage_choices (ms : List Str) : typStage (some ms) none true tStr = tLiteral ms := by
  unfold typStage tLiteral
  simp

/-- **a Literal of two or more string choices, without default**: `choices=(...)`, required, and read back as the
    same Literal with the zero value of `str` -/
theorem argRT_literal_nodefault (name d : Str) (ms : List Str) (dflt : Option Val) (edd rd : Bool) (hpl : plainDoc d)
    (hk : notKwargs name) (h2 : 2 ≤ ms.length) (hm : ∀ m ∈ ms, memberOk m)
    (hc : containsSub (tLiteral ms) tComplex = false) (hd : dflt = none ∨ dflt = some .none) :
    argRT name { doc := some d, typ := some (tLiteral ms), default := dflt } edd rd =
      .ok { doc := some d, typ := some (tLiteral ms), default := some (.str []) } := by
  rw [argRT_none name (tLiteral ms) d dflt edd rd ⟨none, some ms, true, tStr⟩ hd
    (resolveArg_literal name ms false hk h2 hm hc) hpl rfl]
  simp only [readTyp, Option.map_some, map_cleanChoice ms hm, typStage_choices, fill_required tStr rd rfl]
  rfl

/-- **... and with one of its choices (or any plain string) as default**: comes back unchanged -/
theorem argRT_literal_default (name d s : Str) (ms : List Str) (edd rd : Bool) (hpl : plainDoc d)
    (hk : notKwargs name) (h2 : 2 ≤ ms.length) (hm : ∀ m ∈ ms, memberOk m)
    (hc : containsSub (tLiteral ms) tComplex = false) (hs : strPlain s) :
    argRT name { doc := some d, typ := some (tLiteral ms), default := some (.str s) } edd rd =
      .ok { doc := some d, typ := some (tLiteral ms), default := some (.str s) } := by
  rw [argRT_lit name (tLiteral ms) d (.str s) edd rd ⟨none, some ms, true, tStr⟩
    (resolveArg_literal name ms true hk h2 hm hc) hpl hs]
  simp only [readTyp, Option.map_some, map_cleanChoice ms hm]
  rw [show typeName (Val.str s) = tStr from String.toList_ofList, typStage_choices]

example : memberOk "read only".toList := by rw [String.toList_ofList]; unfold memberOk; decide
example : tLiteral ["alpha".toList, "read only".toList] = "Literal['alpha', 'read only']".toList := by
  rw [String.toList_ofList, String.toList_ofList, String.toList_ofList]; rfl

/-- the typed part of the argparse domain, by shape of the declared type and of the default -/
inductive ArgDom (name : Str) : Param → Prop where
  | scalarLit (d : Str) (v : Val) (hpl : plainDoc d) (hv : litOk v) (hn : isNoneVal v = false) :
      ArgDom name { doc := some d, typ := some (typeName v), default := some v }
  | scalarNone (t d : Str) (dflt : Option Val) (hpl : plainDoc d) (hs : isScalar t = true) (hb : t ≠ tBool)
      (hd : dflt = none ∨ dflt = some .none) : ArgDom name { doc := some d, typ := some t, default := dflt }
  | optNone (x d : Str) (dflt : Option Val) (hpl : plainDoc d) (hk : notKwargs name) (hs : isScalar x = true)
      (hd : dflt = none ∨ dflt = some .none ∨ dflt = some (.str noneStr)) :
      ArgDom name { doc := some d, typ := some (tOptional x), default := dflt }
  | optLit (d : Str) (v : Val) (hpl : plainDoc d) (hk : notKwargs name) (hv : litOk v) (hn : isNoneVal v = false) :
      ArgDom name { doc := some d, typ := some (tOptional (typeName v)), default := some v }
  | listNone (x d : Str) (dflt : Option Val) (hpl : plainDoc d) (hk : notKwargs name) (hs : isScalar x = true)
      (hb : x ≠ tBool) (hd : dflt = none ∨ dflt = some .none) :
      ArgDom name { doc := some d, typ := some (tListOf x), default := dflt }
  | litNone (d : Str) (ms : List Str) (dflt : Option Val) (hpl : plainDoc d) (hk : notKwargs name) (h2 : 2 ≤ ms.length)
      (hm : ∀ m ∈ ms, memberOk m) (hc : containsSub (tLiteral ms) tComplex = false)
      (hd : dflt = none ∨ dflt = some .none) :
      ArgDom name { doc := some d, typ := some (tLiteral ms), default := dflt }
  | litDefault (d s : Str) (ms : List Str) (hpl : plainDoc d) (hk : notKwargs name) (h2 : 2 ≤ ms.length)
      (hm : ∀ m ∈ ms, memberOk m) (hc : containsSub (tLiteral ms) tComplex = false) (hs : strPlain s)
      (hn : isNoneVal (.str s) = false) :
      ArgDom name { doc := some d, typ := some (tLiteral ms), default := some (.str s) }

/-- what the FIRST option of a function reads back as: `require_default` is still off, so an `Optional[...]`
    option without a value has no default at all (the later ones get the code-quoted None) -/
def firstForm (q : Param) : Param :=
  if (q.typ.map isOptional).getD false && q.default == some vNoneStr then { q with default := none } else q

theorem argFill_scalar (t : Str) (p : Param) (h : isScalar t = true) : argFill t p = { p with default := some (zeroOf t) } := by
  rw [argFill_eq, h]; rfl

theorem argFill_optional (x : Str) (p : Param) : argFill (tOptional x) p = { p with default := some vNoneStr } := rfl

/-- `Kinds` and `_resolve_arg` read the element type of a list the same way -/
theorem listInner_eq (t : Str) : listInner t = (inside sList t).filter isScalar := by
  unfold listInner inside
  rw [show sList ++ ['['] = pList from rfl]
  split <;> rfl

theorem argFill_list (x : Str) (p : Param) (h : isScalar x = true) :
    argFill (tListOf x) p = { p with default := some (zeroOf x) } := by
  have h2 : listInner (tListOf x) = some x := by
    rw [listInner_eq, show inside sList (tListOf x) = some x from inside_wrapped _ _, Option.filter, h]; rfl
  rw [argFill_eq, show isScalar (tListOf x) = false from rfl, h2]; rfl

theorem argFill_literal (ms : List Str) (p : Param) : argFill (tLiteral ms) p = { p with default := some (.str []) } := rfl

theorem isOptional_tOptional (x : Str) : isOptional (tOptional x) = true := rfl

theorem isOptional_scalar (t : Str) (h : isScalar t = true) : isOptional t = false :=
  isScalar_cases rfl rfl rfl rfl h

theorem norm_nonelike (t d : Str) (dflt : Option Val)
    (hd : dflt = none ∨ dflt = some .none ∨ dflt = some (.str noneStr)) :
    normArgparseParam { doc := some d, typ := some t, default := dflt } =
      argFill t { doc := some d, typ := some t, default := dflt } :=
  (normArgparseParam_eq _ t rfl).trans (fillWith_noValue (argFill t) _ hd)

theorem norm_lit (t d : Str) (v : Val) (hn : isNoneVal v = false) :
    normArgparseParam { doc := some d, typ := some t, default := some v } = { doc := some d, typ := some t, default := some v } :=
  (normArgparseParam_eq _ t rfl).trans (fillWith_explicit _ _ _ v rfl hn)

theorem firstForm_of_not_optional (d t : Str) (dflt : Option Val) (h : isOptional t = false) :
    firstForm { doc := some d, typ := some t, default := dflt } = { doc := some d, typ := some t, default := dflt } := by
  simp [firstForm, h]

theorem firstForm_of_ne_noneStr (q : Param) (h : (q.default == some vNoneStr) = false) : firstForm q = q := by
  simp [firstForm, h]

theorem lit_ne_noneStr (v : Val) (hv : litOk v) : ((some v : Option Val) == some (.str noneStr)) = false := by
  cases v with
  | str s =>
    have : s ≠ noneStr := by
      intro h; subst h; exact absurd hv.2 (by decide)
    simp [this]
  | _ => simp

/-- what the round trip yields in the two states of `require_default`: the normal form, or its first-option form -/
def rdForm (rd : Bool) (q : Param) : Param := if rd then q else firstForm q

theorem noValue_of_absent {dflt : Option Val} (hd : dflt = none ∨ dflt = some .none) :
    dflt = none ∨ dflt = some .none ∨ dflt = some (.str noneStr) := hd.elim Or.inl (Or.inr ∘ Or.inl)

/-- **statement level = interface level for the argparse kind, in either state of `require_default`** -/
theorem argRT_dom (name : Str) (p : Param) (edd rd : Bool) (h : ArgDom name p) :
    argRT name p edd rd = .ok (rdForm rd (normArgparseParam p)) := by
  unfold rdForm
  cases h with
  | scalarLit d v hpl hv hn =>
    rw [argRT_scalar_literal name d v edd rd hpl hv, norm_lit _ d v hn,
      firstForm_of_not_optional d _ _ (isOptional_scalar _ (isScalar_typeName v hv)), ite_self]
  | scalarNone t d dflt hpl hs hb hd =>
    rw [argRT_scalar_nodefault name t d dflt edd rd hpl hs hb hd, norm_nonelike t d dflt (noValue_of_absent hd),
      argFill_scalar t _ hs, firstForm_of_not_optional d t _ (isOptional_scalar t hs), ite_self]
  | optNone x d dflt hpl hk hs hd =>
    rw [argRT_optional_nodefault name x d dflt edd rd hpl hk hs hd, norm_nonelike _ d dflt hd, argFill_optional x _]
    cases rd <;> simp [firstForm, isOptional_tOptional, vNoneStr]
  | optLit d v hpl hk hv hn =>
    rw [argRT_optional_literal name d v edd rd hpl hk hv, norm_lit _ d v hn,
      firstForm_of_ne_noneStr _ (lit_ne_noneStr v hv), ite_self]
  | listNone x d dflt hpl hk hs hb hd =>
    rw [argRT_list_nodefault name x d dflt edd rd hpl hk hs hb hd, norm_nonelike _ d dflt (noValue_of_absent hd),
      argFill_list x _ hs, firstForm_of_not_optional d (tListOf x) _ rfl, ite_self]
  | litNone d ms dflt hpl hk h2 hm hc hd =>
    rw [argRT_literal_nodefault name d ms dflt edd rd hpl hk h2 hm hc hd, norm_nonelike _ d dflt (noValue_of_absent hd),
      argFill_literal, firstForm_of_not_optional d (tLiteral ms) _ rfl, ite_self]
  | litDefault d s ms hpl hk h2 hm hc hs hn =>
    rw [argRT_literal_default name d s ms edd rd hpl hk h2 hm hc hs, norm_lit _ d _ hn,
      firstForm_of_not_optional d (tLiteral ms) _ rfl, ite_self]

/-- **statement level = interface level for the argparse kind**, for every option after the first one that has a
    default (`require_default` on) -/
theorem argRT_eq_norm (name : Str) (p : Param) (edd : Bool) (h : ArgDom name p) :
    argRT name p edd true = .ok (normArgparseParam p) := argRT_dom name p edd true h

/-- ... and for the options before it (`require_default` still off): the same, except that an `Optional[...]`
    option without a value has no default at all -/
theorem argRT_eq_norm_first (name : Str) (p : Param) (edd : Bool) (h : ArgDom name p) :
    argRT name p edd false = .ok (firstForm (normArgparseParam p)) := argRT_dom name p edd false h

/-- the reading under which `Optional[...]` without default and `Optional[...]` with the code-quoted None are one
    description (what the differential run compares, `optional_absent_is_none`) -/
def canonOpt (q : Param) : Param :=
  if (q.typ.map isOptional).getD false && q.default.isNone then { q with default := some vNoneStr } else q

theorem canonOpt_firstForm (q : Param) : canonOpt (firstForm q) = canonOpt q := by
  unfold canonOpt firstForm
  cases q with
  | mk doc typ dflt =>
    by_cases h1 : (typ.map isOptional).getD false = true
    · by_cases h2 : (dflt == some vNoneStr) = true
      · have : dflt = some vNoneStr := eq_of_beq h2
        subst this
        simp [h1]
      · simp [h1, h2]
    · simp [h1]

theorem canonOpt_rdForm (rd : Bool) (q : Param) : canonOpt (rdForm rd q) = canonOpt q := by
  cases rd
  · exact canonOpt_firstForm q
  · rfl

/-- **the statement-level model of a whole argparse function refines the interface-level `norm`**: for ANY number of
    options of the modelled shapes, whatever the state of `require_default` on entry, the options come back in
    order, each as `normArgparseParam` says (up to the one reading of `Optional` without a value) -/
theorem argparseParams_refines (edd : Bool) : ∀ (ps : List (Str × Param)) (rd : Bool),
    (∀ np ∈ ps, ArgDom np.1 np.2) →
    ∃ qs, argparseParams edd ps rd = .ok qs ∧
      qs.map (fun nq => (nq.1, canonOpt nq.2)) = ps.map (fun np => (np.1, canonOpt (normArgparseParam np.2)))
  | [], _, _ => ⟨[], rfl, rfl⟩
  | (n, p) :: rest, rd, h => by
    obtain ⟨qs, hq, hm⟩ := argparseParams_refines edd rest
      (rd || required0Of (rdForm rd (normArgparseParam p)).default) (fun np hnp => h np (by simp [hnp]))
    refine ⟨(n, rdForm rd (normArgparseParam p)) :: qs, ?_, ?_⟩
    · simp only [argparseParams, argRT_dom n p edd rd (h (n, p) (by simp)), Res.bind, hq]
    · simp only [List.map_cons, hm, canonOpt_rdForm]

theorem argparseParams_length (edd : Bool) : ∀ (ps : List (Str × Param)) (rd : Bool) (qs : List (Str × Param)),
    argparseParams edd ps rd = .ok qs → qs.map (·.1) = ps.map (·.1)
  | [], _, qs, h => by simp [argparseParams] at h; subst h; rfl
  | (n, p) :: rest, rd, qs, h => by
    simp only [argparseParams] at h
    obtain ⟨q, _, h⟩ := Res.bind_eq_ok h
    obtain ⟨qs', hr, h⟩ := Res.bind_eq_ok h
    cases h
    simp [argparseParams_length edd rest _ qs' hr]

/-! non-vacuity: concrete entries of every shape -/
example : ArgDom "size".toList { doc := some "the size".toList, typ := some tInt, default := some (.int true ['3']) } := by
  rw [String.toList_ofList, String.toList_ofList, ← show typeName (.int true ['3']) = tInt from String.toList_ofList]
  exact .scalarLit _ (.int true ['3']) ⟨locate_phrases_none _ (by decide), by decide⟩ trivial rfl
example : ArgDom "name".toList { doc := some "a name".toList, typ := some tStr, default := none } := by
  rw [String.toList_ofList, String.toList_ofList]
  exact .scalarNone tStr _ none ⟨locate_phrases_none _ (by decide), by decide⟩ rfl (by decide) (Or.inl rfl)
example : ArgDom "rate".toList { doc := some "the rate".toList, typ := some (tOptional tFloat), default := some (.str noneStr) } := by
  rw [String.toList_ofList, String.toList_ofList]
  exact .optNone tFloat _ _ ⟨locate_phrases_none _ (by decide), by decide⟩
    (by unfold notKwargs; decide) rfl (Or.inr (Or.inr rfl))
example : ArgDom "tags".toList { doc := some "the tags".toList, typ := some (tListOf tStr), default := none } := by
  rw [String.toList_ofList, String.toList_ofList]
  exact .listNone tStr _ none ⟨locate_phrases_none _ (by decide), by decide⟩
    (by unfold notKwargs; decide) rfl (by decide) (Or.inl rfl)
example : ArgDom "mode".toList { doc := some "the mode".toList, typ := some (tLiteral ["alpha".toList, "read only".toList]), default := none } := by
  rw [String.toList_ofList, String.toList_ofList, String.toList_ofList, String.toList_ofList]
  exact .litNone _ _ none ⟨locate_phrases_none _ (by decide), by decide⟩
    (by unfold notKwargs; decide) (by decide) (by unfold memberOk; decide +kernel) (by decide +kernel) (Or.inl rfl)
example : argRT "flag".toList { doc := some "a flag".toList, typ := some tBool, default := none } true false =
    .ok { doc := some "a flag".toList, typ := some (tOptional tBool), default := none } := by
  rw [String.toList_ofList, String.toList_ofList]
  exact argRT_bool_nodefault _ _ true false ⟨locate_phrases_none _ (by decide), by decide⟩

end ArgAttr
end Py
