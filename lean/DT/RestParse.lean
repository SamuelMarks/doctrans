import DT.RestProofs
import DT.RestLines
import DT.ODictLemmas
/-! The ReST parser (`_scan_phase_rest`, `_parse_phase_rest`) on well-formed text: a summary in white space, then the
    `:param` / `:type` lines of uniquely named, default-free entries with any white space after each line, then possibly
    a `:returns:` / `:rtype:` pair. `parseRest_entries` reads it back; every ReST text `emit.docstring` and
    `inspect.cleandoc` produce on that domain is an instance. -/
namespace Py

theorem ncl_tail {a : Char} {t : Str} (h : ncl (a :: t) = true) : ncl t = true := by
  cases t with
  | nil => rfl
  | cons b t => simp only [ncl, Bool.and_eq_true] at h; exact h.2

theorem ncl_of_prefix_token {x : Str} {u : Str} (hu : u ∈ restTokens) (hp : u <+: x) : ncl x = false := by
  have h2 : ∀ u ∈ restTokens, (match u with | a :: b :: _ => a == ':' && isTokLetter b | _ => false) = true := by
    decide
  obtain ⟨r, rfl⟩ := hp
  have := h2 u hu
  match u, this with
  | a :: b :: t, h => simp only [List.cons_append, ncl, h, Bool.not_true, Bool.false_and]

theorem ncl_clean {x : Str} (h : ncl x = true) : Clean restTokens x := by
  rintro u hu ⟨s, r, rfl⟩
  induction s with
  | nil => rw [ncl_of_prefix_token hu ⟨r, by simp⟩] at h; cases h
  | cons a s ih => exact ih (ncl_tail (by simpa using h))

theorem ncl_append (x y : Str) (hx : ncl x = true) (hy : ncl y = true)
    (hj : ∀ b, x.getLast? = some ':' → y.head? = some b → isTokLetter b = false) : ncl (x ++ y) = true := by
  induction x with
  | nil => exact hy
  | cons a x ih =>
    cases x with
    | nil =>
      cases y with
      | nil => rfl
      | cons b t =>
        rw [List.singleton_append, ncl, hy, Bool.and_true]
        cases h : a == ':' with
        | false => rfl
        | true => rw [hj b (by rw [beq_iff_eq.mp h]; rfl) rfl]; rfl
    | cons b x' =>
      rw [ncl, Bool.and_eq_true] at hx
      rw [List.cons_append, List.cons_append, ncl, hx.1, Bool.true_and]
      exact ih hx.2 (by rwa [List.getLast?_cons_cons] at hj)

theorem ncl_no_colon (x : Str) (h : ':' ∉ x) : ncl x = true := by
  induction x with
  | nil => rfl
  | cons a t ih =>
    exact ncl_append [a] t rfl (ih (List.not_mem_of_not_mem_cons h)) fun _ e =>
      absurd (Option.some.inj (show some a = some ':' from e)) (List.ne_of_not_mem_cons h).symm

theorem ncl_append_glue (x y : Str) (g : Char) (hg1 : g ≠ ':') (hg2 : isTokLetter g = false)
    (hx : ncl x = true) (hy : ncl y = true) : ncl (x ++ g :: y) = true :=
  ncl_append x (g :: y) hx (ncl_append [g] y rfl hy fun _ e => absurd (Option.some.inj e) hg1)
    fun _ _ e => Option.some.inj e ▸ hg2

theorem ncl_colon_end (x : Str) (h : ':' ∉ x) : ncl (x ++ [':']) = true :=
  ncl_append x [':'] (ncl_no_colon x h) rfl fun _ _ e => Option.some.inj e ▸ rfl

abbrev AllWs (w : Str) : Prop := ∀ c ∈ w, pyWs.contains c = true

theorem ws_not_tok {b : Char} (h : pyWs.contains b = true) : b ≠ ':' ∧ isTokLetter b = false :=
  (by decide : ∀ b ∈ pyWs, b ≠ ':' ∧ isTokLetter b = false) b (List.contains_iff_mem.mp h)

theorem ncl_append_ws (v w : Str) (hv : ncl v = true) (hw : AllWs w) : ncl (v ++ w) = true := by
  cases w with
  | nil => rwa [List.append_nil]
  | cons g w =>
    have hg := ws_not_tok (hw g (by simp))
    exact ncl_append_glue v w g hg.1 hg.2 hv (ncl_no_colon w fun hm => (ws_not_tok (hw _ (by simp [hm]))).1 rfl)

theorem ncl_ticks (t : Str) (ht : ncl t = true) : ncl (bt3 ++ t ++ bt3) = true :=
  ncl_append (bt3 ++ t) bt3 (ncl_append bt3 t rfl ht fun _ e => absurd e (by decide)) rfl
    fun _ _ e => Option.some.inj e ▸ rfl

theorem replace_ticks (t : Str) (ht : '`' ∉ t) : replaceAll bt3 [] (bt3 ++ t ++ bt3) = t := by
  have : replaceAll bt3 [] bt3 = [] := by
    simpa [replaceAll_nil] using replaceAll_prefix bt3 [] [] (by simp [bt3])
  rw [List.append_assoc, replaceAll_prefix bt3 [] _ (by simp [bt3]), List.nil_append,
    replaceAll_skip bt3 [] t bt3 '`' rfl ht, this, List.append_nil]

/-- `k: v` and white space: what follows the token in every segment the emitter writes (`k` is `' ' :: name`, `"s"` after
    `:return`, nothing after `:rtype`) -/
def bodyOf (k v w : Str) : Str := k ++ ':' :: ' ' :: v ++ w

theorem bodyOf_clean (k v w : Str) (hk : ':' ∉ k) (hv : ncl v = true) (hw : AllWs w) :
    Clean restTokens (bodyOf k v w) := by
  have e : bodyOf k v w = (k ++ [':']) ++ ' ' :: (v ++ w) := by simp [bodyOf]
  rw [e]
  exact ncl_clean (ncl_append_glue _ _ ' ' (by decide) (by decide) (ncl_colon_end k hk) (ncl_append_ws v w hv hw))

theorem NameOK.blank_noColon {n : Str} (hn : NameOK n) : ':' ∉ ' ' :: n := by
  intro hm; simp at hm; exact hn.noColon hm

/-- where `_parse_phase_rest` finds name and value in a line `tok ++ ' ' :: n ++ ':' :: rest`: the first blank ends the token,
    the first ':' after it ends the name -/
theorem surgery (tok n rest : Str) (hts : ' ' ∉ tok) (hn : NameOK n) (k : Nat) (hk : tok.length = k) :
    let line := tok ++ (' ' :: n ++ ':' :: rest)
    pyFind line [' '] 0 = (k : Int) ∧
    pyFind line [':'] (k : Int) = ((k + 1 + n.length : Nat) : Int) ∧
    pySlice line ((k : Int) + 1) ((k + 1 + n.length : Nat) : Int) = n ∧
    pyFrom line (((k + 1 + n.length : Nat) : Int) + 1) = rest := by
  subst hk
  have h1 := pyFind_single ' ' [] tok (n ++ ':' :: rest) hts
  have h2 := pyFind_single ':' tok (' ' :: n) rest hn.blank_noColon
  have h3 := pySlice_mid (tok ++ [' ']) n (':' :: rest)
  have h4 := pyFrom_at (tok ++ [' '] ++ n ++ [':']) rest
  rw [List.length_nil, Nat.zero_add] at h1
  rw [List.length_cons, Nat.add_comm n.length 1, ← Nat.add_assoc] at h2
  rw [List.length_append, List.length_singleton, List.append_assoc, List.singleton_append, Int.natCast_add,
    Int.natCast_one] at h3
  rw [List.length_append, List.length_append, List.length_append, List.length_singleton, List.length_singleton,
    Int.natCast_add _ 1, Int.natCast_one] at h4
  simp only [List.append_assoc, List.singleton_append] at h4
  exact ⟨h1, h2, h3, h4⟩

/-- a return line: the value starts behind the first ':' after the token's own -/
theorem retLine_value (r k v w : Str) (h : ':' ∉ r ++ k) :
    let line := (':' :: r) ++ bodyOf k v w
    pyFrom line (pyFind line [':'] 1 + 1) = ' ' :: (v ++ w) := by
  have e : (':' :: r) ++ bodyOf k v w = [':'] ++ ((r ++ k) ++ ':' :: ' ' :: (v ++ w)) := by
    simp only [bodyOf, List.cons_append, List.nil_append, List.append_assoc]
  have hf : pyFind _ [':'] 1 = _ := pyFind_single ':' [':'] (r ++ k) (' ' :: (v ++ w)) h
  have hv := pyFrom_at ([':'] ++ (r ++ k) ++ [':']) (' ' :: (v ++ w))
  rw [List.length_append, List.length_append, List.length_singleton, Int.natCast_add _ 1, Int.natCast_one,
    List.append_assoc, List.append_assoc, List.singleton_append (l := ' ' :: (v ++ w))] at hv
  show pyFrom _ (pyFind _ [':'] 1 + 1) = _
  rw [e, hf]
  exact hv

theorem strip_val (v w : Str) (hv : Trimmed v) (hne : v ≠ []) (hw : AllWs w) : strip pyWs (' ' :: (v ++ w)) = v := by
  simpa using hv.strip_pad hne [' '] w (by decide) hw

theorem typeTok_eq : ":type".toList = tokType := String.toList_ofList

theorem rtypeTok_eq : ":rtype".toList = tokRtype := String.toList_ofList

theorem not_return_of_arg {t : Str} (ht : t ∈ argTokens) (b : Str) :
    returnTokens.any (fun u => startsWith (t ++ b) u) = false := by
  have hnd := restTokens_ok.nodup
  rw [← List.take_append_drop 5 restTokens] at hnd
  refine List.any_eq_false.mpr fun u hu h => (List.nodup_append.mp hnd).2.2 t ht u hu ?_
  exact restTokens_ok.prefix_unique (List.mem_of_mem_take ht) (List.mem_of_mem_drop hu) (List.prefix_append t b)
    (List.isPrefixOf_iff_prefix.mp h)

theorem param_not_type (b : Str) : startsWith (tokParam ++ b) tokType = false := by
  simp [tokParam, tokType]

/-- the parameters once `_parse_phase_rest` has stored the entry it was collecting (`cn`, `cp`) under its name; before
    the first argument line there is none -/
def flushInto (ps : ODict Param) (cn : Option Str) (cp : Param) : ODict Param :=
  match cn with
  | some m => ps.set m cp
  | none => ps

/-- an argument line `tok name: value` in the default-free domain: the entry being collected is continued if it has this
    name, else it is stored under its own name and a new one begun (`hflush`, which fixes the parameters `ps` left behind
    and the entry `cp'` the line is laid over); `hp` says what the line sets -/
theorem parseStep_arg (st : ParseSt) (cn : Option Str) (cp cp' : Param) (ps : ODict Param) (tok n d v w : Str)
    (typ : Option Str) (htok : tok ∈ argTokens) (hn : NameOK n) (hd : DocOK d)
    (htyp : ∀ t, typ = some t → TypOK t) (hv : Trimmed v) (hvne : v ≠ []) (hw : AllWs w)
    (hcur : st.cur = some (cn, cp))
    (hflush : (cn = some n ∧ ps = st.params ∧ cp' = cp) ∨
      (((cn = none ∧ cp = {}) ∨ ∃ m, cn = some m ∧ m ≠ n ∧ m ≠ [] ∧ m.head? ≠ some '*') ∧
        ps = flushInto st.params cn cp ∧ cp' = {}))
    (hp : setParamValue cp' (tok ++ bodyOf (' ' :: n) v w) v tokType = { doc := some d, typ := typ }) :
    parseStepRest true false true st (true, tok ++ bodyOf (' ' :: n) v w) =
      .ok { st with params := ps, cur := some (some n, { doc := some d, typ := typ }) } := by
  have hline : tok ++ bodyOf (' ' :: n) v w = tok ++ (' ' :: n ++ ':' :: (' ' :: (v ++ w))) := by simp [bodyOf]
  rw [hline] at hp ⊢
  obtain ⟨f1, f2, f3, f4⟩ :=
    surgery tok n (' ' :: (v ++ w)) ((by decide : ∀ t ∈ argTokens, ' ' ∉ t) tok htok) hn tok.length rfl
  have hret := not_return_of_arg htok (' ' :: n ++ ':' :: (' ' :: (v ++ w)))
  -- from here on the line is a variable: `simp` must not rewrite inside it
  generalize tok ++ (' ' :: n ++ ':' :: (' ' :: (v ++ w))) = line at *
  have hint := interpolate_nodefault { doc := some d, typ := typ } d hd rfl true
  have hsnt := setNameAndType_plain n d typ hn.notKwargs hd htyp
  unfold parseStepRest
  simp only [if_true, hret, Bool.false_eq_true, if_false, f1, f2, f3, f4, hcur, Option.getD_some, typeTok_eq,
    strip_val v w hv hvne hw]
  rcases hflush with ⟨rfl, rfl, rfl⟩ | ⟨⟨rfl, rfl⟩ | ⟨m, rfl, hmn, hmne, hmstar⟩, rfl, rfl⟩
  · simp only [bne_self_eq_false, Bool.and_false, Bool.false_and, Bool.false_eq_true, if_false, hp, hint, Res.bind, hsnt]
  · simp only [Option.isSome_none, Bool.false_and, Bool.false_eq_true, if_false, hp, hint, Res.bind, hsnt, flushInto]
  · have hne : (some m != some n) = true := by simpa using hmn
    have hne2 : (some m == some ([] : Str)) = false := by simpa using hmne
    have hstar : (m.head? != some '*') = true := by simpa using hmstar
    simp only [Option.isSome_some, Bool.true_and, hne, if_true, hne2, Bool.false_eq_true, if_false, hstar, hp, hint,
      Res.bind, hsnt, flushInto]

theorem parseStep_param (st : ParseSt) (cn : Option Str) (cp : Param) (n d w : Str) (hn : NameOK n) (hd : DocOK d)
    (hw : AllWs w) (hcur : st.cur = some (cn, cp))
    (hstate : (cn = none ∧ cp = {}) ∨ (∃ m, cn = some m ∧ m ≠ n ∧ m ≠ [] ∧ m.head? ≠ some '*')) :
    parseStepRest true false true st (true, tokParam ++ bodyOf (' ' :: n) d w) =
      .ok { st with params := flushInto st.params cn cp, cur := some (some n, { doc := some d }) } :=
  parseStep_arg st cn cp {} _ tokParam n d d w none (by decide) hn hd (fun _ h => nomatch h) hd.trimmed hd.ne hw
    hcur (Or.inr ⟨hstate, rfl, rfl⟩) (by rw [setParamValue, param_not_type, if_neg Bool.false_ne_true])

theorem setParamValue_ticks (p : Param) (tok b t : Str) (ht : TypOK t) :
    setParamValue p (tok ++ b) (bt3 ++ t ++ bt3) tok = { p with typ := some t } := by
  rw [setParamValue, startsWith_append_self, if_pos rfl, show (['`', '`', '`'] : Str) = bt3 from rfl,
    replace_ticks t ht.noTick]
  simp only [ht.noStars, Bool.false_eq_true, if_false]

theorem parseStep_type (st : ParseSt) (n d t w : Str) (hn : NameOK n) (hd : DocOK d) (ht : TypOK t) (hw : AllWs w)
    (hcur : st.cur = some (some n, { doc := some d })) :
    parseStepRest true false true st (true, tokType ++ bodyOf (' ' :: n) (bt3 ++ t ++ bt3) w) =
      .ok { st with cur := some (some n, { doc := some d, typ := some t }) } :=
  parseStep_arg st (some n) _ _ _ tokType n d _ w (some t) (by decide) hn hd (fun _ h => Option.some.inj h ▸ ht)
    (ticks_trimmed t) (by simp [bt3]) hw hcur (Or.inl ⟨rfl, rfl, rfl⟩) (setParamValue_ticks _ _ _ t ht)

theorem parseStep_ret (st : ParseSt) (tok k v w : Str) (p : Param) (htok : tok ∈ returnTokens) (hk : ':' ∉ k)
    (hv : Trimmed v) (hvne : v ≠ []) (hw : AllWs w)
    (hp : setParamValue {} (tok ++ bodyOf k v w) v tokRtype = p) (hint : interpolateDefaults p true = .ok p) :
    parseStepRest true false true st (true, tok ++ bodyOf k v w) =
      .ok { st with returns := some { doc := p.doc.orElse fun _ => (st.returns.getD {}).doc,
                                      typ := p.typ.orElse fun _ => (st.returns.getD {}).typ,
                                      default := p.default.orElse fun _ => (st.returns.getD {}).default } } := by
  obtain ⟨r, rfl, hr, _⟩ := restTokens_ok.shape tok (List.mem_of_mem_drop htok)
  have hret : returnTokens.any (fun u => startsWith (':' :: r ++ bodyOf k v w) u) = true :=
    List.any_eq_true.mpr ⟨_, htok, startsWith_append_self _ _⟩
  have hval := retLine_value r k v w (List.not_mem_append hr hk)
  generalize ':' :: r ++ bodyOf k v w = line at *
  unfold parseStepRest
  simp only [if_true, hret, hval, strip_val v w hv hvne hw, rtypeTok_eq, hp, hint, Res.bind]

theorem parseStep_returns (st : ParseSt) (d w : Str) (hd : DocOK d) (hw : AllWs w) (hr : st.returns = none) :
    parseStepRest true false true st (true, tokReturn ++ bodyOf ['s'] d w) =
      .ok { st with returns := some { doc := some d } } := by
  rw [parseStep_ret st tokReturn ['s'] d w { doc := some d } (by decide) (by decide) hd.trimmed hd.ne hw
    (by simp [setParamValue, tokReturn, tokRtype]) (interpolate_nodefault _ d hd rfl true), hr]
  rfl

theorem parseStep_rtype (st : ParseSt) (d t w : Str) (ht : TypOK t) (hw : AllWs w)
    (hr : st.returns = some { doc := some d }) :
    parseStepRest true false true st (true, tokRtype ++ bodyOf [] (bt3 ++ t ++ bt3) w) =
      .ok { st with returns := some { doc := some d, typ := some t } } := by
  rw [parseStep_ret st tokRtype [] _ w { typ := some t } (by decide) (by decide) (ticks_trimmed t) (by simp [bt3]) hw
    (setParamValue_ticks _ _ _ t ht) rfl, hr]
  rfl

/-- what `parseDocstringRest` does with the state the fold leaves: the final flush and the closing passes -/
def closeRest (e it ww : Bool) (st : ParseSt) : Res IR :=
  let fin : Res ParseSt :=
    match st.cur with
    | some (some n, p) =>
      (interpolateDefaults p e).bind fun p1 =>
      (setNameAndType (some n) p1 it ww).bind fun (n2, p2) =>
      .ok { st with params := st.params.set n2 p2 }
    | _ => .ok st
  fin.bind fun st =>
  (mapParams (fun p => interpolateDefaults p e) st.params).bind fun ps =>
  let rs : Res (Option Param) := match st.returns with
    | some r => (interpolateDefaults r e).bind fun r' => .ok (some r')
    | none => .ok none
  rs.bind fun r => .ok { doc := st.doc, params := ps, returns := r }

theorem parseDocstringRest_eq (doc : Str) (e it ww : Bool) :
    parseDocstringRest doc e it ww =
      if doc.isEmpty then .ok {} else
        (foldRes (parseStepRest e it ww) {} (scanRest doc)).bind (closeRest e it ww) := rfl

def itemsOfSegs (segs : List (Str × Str)) : List (Bool × Str) := segs.map fun tb => (true, tb.1 ++ tb.2)

theorem itemsOfSegs_append (a b : List (Str × Str)) : itemsOfSegs (a ++ b) = itemsOfSegs a ++ itemsOfSegs b :=
  List.map_append

theorem parseRest_segs (pre : Str) (segs : List (Str × Str)) (hne : segs ≠ [])
    (hpre : Clean restTokens pre) (hs : SegsOK restTokens segs) (e it ww : Bool) :
    parseDocstringRest (pre ++ segText segs) e it ww =
      (foldRes (parseStepRest e it ww) { doc := strip pyWs pre } (itemsOfSegs segs)).bind (closeRest e it ww) := by
  obtain ⟨tb, rest, rfl⟩ := List.exists_cons_of_ne_nil hne
  obtain ⟨r, hr, _⟩ := restTokens_ok.shape _ (hs tb (by simp)).1
  rw [parseDocstringRest_eq, scanRest_spec_cons pre tb rest hpre hs,
    if_neg (by rw [segText_cons, hr]; simp), foldRes]
  rfl

theorem SegsOK.append {toks : List Str} {a b : List (Str × Str)} (ha : SegsOK toks a) (hb : SegsOK toks b) :
    SegsOK toks (a ++ b) := fun tb h => (List.mem_append.mp h).elim (ha tb) (hb tb)

theorem foldRes_append {σ α} (f : σ → α → Res σ) (s : σ) (l1 l2 : List α) :
    foldRes f s (l1 ++ l2) = (foldRes f s l1).bind fun s' => foldRes f s' l2 := by
  induction l1 generalizing s with
  | nil => simp [foldRes, Res.bind]
  | cons a as ih =>
    simp only [List.cons_append, foldRes]
    cases f s a with
    | ok s' => simp only [Res.bind]; exact ih s'
    | raises k => rfl
    | unmodelled w => rfl

/-- one entry of a ReST docstring as the parser meets it: a `:param` line, possibly a `:type` line, white space after each -/
structure REntry where
  n : Str
  d : Str
  /-- the white space after the prose -/
  w : Str
  /-- the type and the white space after the `:type` line -/
  typ : Option (Str × Str) := none

namespace REntry
def param (x : REntry) : Param := { doc := some x.d, typ := x.typ.map (·.1) }
def entry (x : REntry) : Str × Param := (x.n, x.param)
def segs (x : REntry) : List (Str × Str) :=
  (tokParam, bodyOf (' ' :: x.n) x.d x.w) ::
    (x.typ.map fun tw => (tokType, bodyOf (' ' :: x.n) (bt3 ++ tw.1 ++ bt3) tw.2)).toList

structure OK (x : REntry) : Prop where
  name : NameOK x.n
  doc : DocOK x.d
  ws : AllWs x.w
  typ : ∀ tw, x.typ = some tw → TypOK tw.1 ∧ AllWs tw.2

theorem OK.typOK {x : REntry} (h : x.OK) : ∀ t, x.typ.map (·.1) = some t → TypOK t :=
  fun _ ht => let ⟨tw, hx, e⟩ := Option.map_eq_some_iff.mp ht; e ▸ (h.typ tw hx).1

theorem segs_ok (x : REntry) (hx : x.OK) : SegsOK restTokens x.segs := by
  intro tb htb
  simp only [segs, List.mem_cons, Option.mem_toList, Option.map_eq_some_iff] at htb
  rcases htb with rfl | ⟨tw, htw, rfl⟩
  · exact ⟨(by decide : tokParam ∈ restTokens), bodyOf_clean _ _ _ hx.name.blank_noColon hx.doc.clean hx.ws⟩
  · exact ⟨(by decide : tokType ∈ restTokens),
      bodyOf_clean _ _ _ hx.name.blank_noColon (ncl_ticks _ (hx.typ tw htw).1.clean) (hx.typ tw htw).2⟩
end REntry

def keys (d : ODict Param) : List Str := d.map (·.1)

theorem fold_entry (st : ParseSt) (cn : Option Str) (cp : Param) (x : REntry) (hx : x.OK)
    (hcur : st.cur = some (cn, cp))
    (hstate : (cn = none ∧ cp = {}) ∨ (∃ m, cn = some m ∧ m ≠ x.n ∧ m ≠ [] ∧ m.head? ≠ some '*')) :
    foldRes (parseStepRest true false true) st (itemsOfSegs x.segs) =
      .ok { st with params := flushInto st.params cn cp, cur := some (some x.n, x.param) } := by
  simp only [itemsOfSegs, REntry.segs, List.map_cons, foldRes]
  rw [parseStep_param st cn cp x.n x.d x.w hx.name hx.doc hx.ws hcur hstate]
  simp only [Res.bind, REntry.param]
  cases htyp : x.typ with
  | none => rfl
  | some tw =>
    simp only [Option.map_some, Option.toList_some, List.map_cons, List.map_nil, foldRes]
    rw [parseStep_type _ x.n x.d tw.1 tw.2 hx.name hx.doc (hx.typ tw htyp).1 (hx.typ tw htyp).2 rfl]
    rfl

/-- what the parse step needs of the entry being collected when the `:param` lines of `next` come: nothing is being
    collected, or a name that flushes (`param[0][0]` exists and is not `*`) and is not among `next` -/
def Pending (cn : Option Str) (cp : Param) (next : List Str) : Prop :=
  (cn = none ∧ cp = {}) ∨ (∃ m, cn = some m ∧ m ∉ next ∧ m ≠ [] ∧ m.head? ≠ some '*')

theorem Pending.head {cn : Option Str} {cp : Param} {n : Str} {ns : List Str} (h : Pending cn cp (n :: ns)) :
    (cn = none ∧ cp = {}) ∨ (∃ m, cn = some m ∧ m ≠ n ∧ m ≠ [] ∧ m.head? ≠ some '*') := by
  rcases h with h | ⟨m, hm, hmn, h1, h2⟩
  · exact Or.inl h
  · exact Or.inr ⟨m, hm, List.ne_of_not_mem_cons hmn, h1, h2⟩

/-- every `:param` line flushes the entry collected before it, under a fresh key (`hfresh`), so it is appended; the last
    entry stays pending -/
theorem fold_entries (es : List REntry) (l : REntry) (st : ParseSt) (cn : Option Str) (cp : Param)
    (hok : ∀ x ∈ es ++ [l], x.OK) (hnd : ((es ++ [l]).map (·.n)).Nodup)
    (hcur : st.cur = some (cn, cp)) (hstate : Pending cn cp ((es ++ [l]).map (·.n)))
    (hfresh : ∀ x ∈ es ++ [l], x.n ∉ keys (flushInto st.params cn cp)) :
    foldRes (parseStepRest true false true) st (itemsOfSegs ((es ++ [l]).flatMap REntry.segs)) =
      .ok { st with params := flushInto st.params cn cp ++ es.map REntry.entry, cur := some (some l.n, l.param) } := by
  induction es generalizing st cn cp with
  | nil =>
    simp only [List.nil_append, List.flatMap_cons, List.flatMap_nil, List.append_nil, List.map_nil]
    exact fold_entry st cn cp l (hok l (by simp)) hcur hstate.head
  | cons x es ih =>
    have hxok := hok x (by simp)
    have hxnot : x.n ∉ (es ++ [l]).map (·.n) := (List.nodup_cons.mp hnd).1
    have hset : flushInto (flushInto st.params cn cp) (some x.n) x.param = flushInto st.params cn cp ++ [x.entry] :=
      ODict.set_of_not_mem _ _ _ (hfresh x (by simp))
    rw [List.cons_append, List.flatMap_cons, itemsOfSegs_append, foldRes_append,
      fold_entry st cn cp x hxok hcur hstate.head]
    simp only [Res.bind]
    rw [ih ({ st with params := flushInto st.params cn cp, cur := some (some x.n, x.param) })
      (some x.n) x.param
      (fun y hy => hok y (List.mem_cons_of_mem _ hy)) (List.nodup_cons.mp hnd).2 rfl
      (Or.inr ⟨x.n, rfl, hxnot, hxok.name.ne, hxok.name.noStar⟩)
      (by
        intro y hy
        rw [hset]
        simp only [keys, List.map_append, List.mem_append, List.map_cons, List.map_nil, List.mem_singleton, REntry.entry]
        rintro (h | h)
        · exact hfresh y (List.mem_cons_of_mem _ hy) h
        · exact hxnot (by rw [← h]; exact List.mem_map_of_mem hy)),
      hset, List.append_assoc]
    rfl

def retSegs (d t : Str) : List (Str × Str) :=
  [(tokReturn, bodyOf ['s'] d ['\n']), (tokRtype, bodyOf [] (bt3 ++ t ++ bt3) ['\n'])]

def retSegsO : Option (Str × Str) → List (Str × Str)
  | none => []
  | some x => retSegs x.1 x.2

theorem retSegs_ok (d t : Str) (hd : DocOK d) (ht : TypOK t) : SegsOK restTokens (retSegs d t) := by
  intro tb htb
  simp only [retSegs, List.mem_cons, List.mem_nil_iff, or_false] at htb
  rcases htb with rfl | rfl
  · exact ⟨(by decide : tokReturn ∈ restTokens), bodyOf_clean _ _ _ (by decide) hd.clean (by decide)⟩
  · exact ⟨(by decide : tokRtype ∈ restTokens), bodyOf_clean _ _ _ (by decide) (ncl_ticks t ht.clean) (by decide)⟩

theorem retSegsO_ok (r : Option (Str × Str)) (hr : RetOK r) : SegsOK restTokens (retSegsO r) := by
  cases r with
  | none => intro _ h; cases h
  | some x => exact retSegs_ok x.1 x.2 (hr x rfl).1 (hr x rfl).2

/-- the return items touch `returns` only: they do not flush the parameter being collected -/
theorem fold_ret (st : ParseSt) (r : Option (Str × Str)) (hr : RetOK r) (h0 : st.returns = none) :
    foldRes (parseStepRest true false true) st (itemsOfSegs (retSegsO r)) = .ok { st with returns := retParam r } := by
  cases r with
  | none => cases st; simp_all [retSegsO, retParam, foldRes, itemsOfSegs]
  | some x =>
    simp only [retSegsO, retSegs, itemsOfSegs, List.map_cons, List.map_nil, foldRes]
    rw [parseStep_returns _ x.1 _ (hr x rfl).1 (by decide) h0]
    simp only [Res.bind]
    rw [parseStep_rtype _ x.1 x.2 _ (hr x rfl).2 (by decide) rfl]
    rfl

def irOf (D : Str) (es : List REntry) (r : Option (Str × Str)) : IR :=
  { doc := D, params := es.map REntry.entry, returns := retParam r }

theorem set_last (es : List REntry) (l : REntry) (hnd : ((es ++ [l]).map (·.n)).Nodup) :
    ODict.set (es.map REntry.entry) l.n l.param = (es ++ [l]).map REntry.entry := by
  rw [ODict.set_of_not_mem, List.map_append]; rfl
  intro hm
  rw [List.map_append, List.nodup_append] at hnd
  simp only [List.map_map, List.mem_map, Function.comp] at hm
  obtain ⟨y, hy, hyl⟩ := hm
  exact hnd.2.2 _ (List.mem_map_of_mem hy) l.n (by simp) hyl

theorem mapParams_entries (es : List REntry) (hok : ∀ x ∈ es, x.OK) :
    mapParams (fun p => interpolateDefaults p true) (es.map REntry.entry) = .ok (es.map REntry.entry) :=
  (mapParams_ok _ id _ (List.forall_mem_map.mpr fun x hx => interpolate_nodefault x.param x.d (hok x hx).doc rfl true)).trans
    (congrArg Res.ok (List.map_id' _))

theorem closeRest_entries (D : Str) (es : List REntry) (l : REntry) (r : Option (Str × Str))
    (hok : ∀ x ∈ es ++ [l], x.OK) (hnd : ((es ++ [l]).map (·.n)).Nodup) (hr : RetOK r) :
    closeRest true false true { doc := D, params := es.map REntry.entry, returns := retParam r,
                                cur := some (some l.n, l.param) } = .ok (irOf D (es ++ [l]) r) := by
  have hl := hok l (by simp)
  have h1 : interpolateDefaults l.param true = .ok l.param := interpolate_nodefault _ l.d hl.doc rfl true
  have h2 : setNameAndType (some l.n) l.param false true = .ok (l.n, l.param) :=
    setNameAndType_plain l.n l.d _ hl.name.notKwargs hl.doc hl.typOK
  unfold closeRest
  simp only [h1, h2, Res.bind, set_last es l hnd, mapParams_entries (es ++ [l]) hok]
  cases r with
  | none => rfl
  | some x =>
    simp only [retParam, Option.map_some, interpolate_nodefault (mkParam x.1 x.2) x.1 (hr x rfl).1 rfl, irOf]

/-- **the ReST parser on well-formed text**: a summary between white space, ≥ 1 uniquely named default-free entries, each a
    `:param` line and possibly a `:type` line with any white space after them, then possibly `:returns:` / `:rtype:` - it
    reads back the summary, every entry in order and the return entry, and raises nothing -/
theorem parseRest_entries (pre : Str) (es : List REntry) (l : REntry) (r : Option (Str × Str))
    (hpre : Clean restTokens pre)
    (hok : ∀ x ∈ es ++ [l], x.OK) (hnd : ((es ++ [l]).map (·.n)).Nodup) (hr : RetOK r) :
    parseDocstringRest (pre ++ segText ((es ++ [l]).flatMap REntry.segs ++ retSegsO r)) true
      = .ok (irOf (strip pyWs pre) (es ++ [l]) r) := by
  have hsegs : SegsOK restTokens ((es ++ [l]).flatMap REntry.segs) := by
    intro tb htb
    obtain ⟨x, hx, hxtb⟩ := List.mem_flatMap.mp htb
    exact x.segs_ok (hok x hx) tb hxtb
  rw [parseRest_segs _ _ (by simp [REntry.segs]) hpre (hsegs.append (retSegsO_ok r hr)), itemsOfSegs_append,
    foldRes_append,
    fold_entries es l { doc := strip pyWs pre } none {} hok hnd rfl (Or.inl ⟨rfl, rfl⟩) (by intro x _; simp [flushInto, keys])]
  simp only [Res.bind, flushInto, List.nil_append]
  rw [fold_ret _ r hr rfl]
  exact closeRest_entries _ es l r hok hnd hr

end Py
