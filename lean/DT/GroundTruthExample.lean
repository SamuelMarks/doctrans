import DT.GroundTruth
/-! non-vacuity of `LawsK`: a small concrete layer satisfies every law (so `sync_all_agree` is not a statement about an
    inconsistent set of assumptions), and a project with a file shared by two kinds meets `Separate`. -/
namespace FsSync
namespace GroundTruth

/-- a module is a list of (name, body) definitions; its text is the flat list of characters -/
abbrev ToyM := List (Char × Char)

def toyRender : ToyM → Text
  | [] => []
  | (a, b) :: r => a :: b :: toyRender r

def toyRead : Text → ToyM
  | a :: b :: r => (a, b) :: toyRead r
  | _ => []

def toyFind (k : Char) : ToyM → Option (Char × Char)
  | [] => none
  | d :: r => if d.1 == k then some d else toyFind k r

def toyReplace (d : Char × Char) : ToyM → ToyM
  | [] => []
  | e :: r => if e.1 == d.1 then d :: r else e :: toyReplace d r

def toy : LayerK ToyM (Char × Char) Char where
  render := toyRender
  read := toyRead
  key := (·.1)
  find := toyFind
  replaceAt := toyReplace
  single := fun d => [d]
  appendText := fun t d => toyRender (toyRead t ++ [d])
  cmp := fun a b => a == b
  indep := fun a b => a ≠ b

theorem toy_read_render : ∀ m : ToyM, toyRead (toyRender m) = m
  | [] => rfl
  | (a, b) :: r => by simp [toyRender, toyRead, toy_read_render r]

theorem toyFind_append (k : Char) (d : Char × Char) (m : ToyM) :
    toyFind k (m ++ [d]) = (toyFind k m).or (if d.1 == k then some d else none) := by
  fun_induction toyFind k m <;> simp_all [toyFind]

theorem toyFind_replace_self (d : Char × Char) (m : ToyM) :
    (toyFind d.1 m).isSome → toyFind d.1 (toyReplace d m) = some d := by
  fun_induction toyReplace d m <;> simp_all [toyFind]

theorem toyFind_replace_other (d : Char × Char) (k : Char) (hk : k ≠ d.1) (m : ToyM) :
    toyFind k (toyReplace d m) = toyFind k m := by
  fun_induction toyReplace d m <;> simp_all [toyFind, Ne.symm hk]

theorem toy_laws : LawsK toy where
  read_render := toy_read_render
  find_single := by intro d; simp [toy, toyFind]
  find_replace := fun d m h => toyFind_replace_self d m h
  find_append := by
    intro t d h
    show toyFind d.1 (toyRead (toyRender (toyRead t ++ [d]))) = some d
    rw [toy_read_render, toyFind_append, show toyFind d.1 (toyRead t) = none from h]
    simp
  cmp_refl := by intro d; simp [toy]
  replace_frame := fun d m k hk => toyFind_replace_other d k hk m
  append_frame := by
    intro t d k (hk : k ≠ d.1)
    show toyFind k (toyRead (toyRender (toyRead t ++ [d]))) = toyFind k (toyRead t)
    rw [toy_read_render, toyFind_append, if_neg (by simpa using hk.symm), Option.or_none]

/-- one file (path 0) named for two kinds (`a`, `b`), another (path 1, missing) for the second kind only: after the loop
    every target agrees, whatever the first file held -/
example (t0 : Text) : ∀ x ∈ [((0 : Path), ('a', 'x')), (0, ('b', 'y')), (1, ('b', 'y'))],
    Agrees toy (runK toy (fun p => if p = 0 then some t0 else none) [(0, ('a', 'x')), (0, ('b', 'y')), (1, ('b', 'y'))]) x :=
  sync_all_agree toy toy_laws _ _ (by simp [Separate, toy])

/-! ### why every step re-reads its file -/

/-- a loop that parses every target file ONCE, before the first step, and lets each step work from that tree (what a
    per-run cache of parsed modules does) -/
def runStale (L : LayerK ToyM (Char × Char) Char) (fs0 : FS) (ts : List (Path × (Char × Char))) : FS :=
  ts.foldl (fun fs pd => fs.set pd.1 (conformK L (fs0 pd.1) pd.2).1) fs0

/-- one file holding a stale `b`; the first step appends `a`, the second rewrites `b` - from the tree read before `a`
    was appended: `a` is gone again. The loop that re-reads (`runK`) keeps both. -/
theorem stale_tree_loses_the_appended_definition :
    let fs0 : FS := fun p => if p = 0 then some ['b', 'o'] else none
    let ts : List (Path × (Char × Char)) := [(0, ('a', 'x')), (0, ('b', 'y'))]
    toyFind 'a' (toyRead ((runStale toy fs0 ts 0).getD [])) = none ∧
    toyFind 'a' (toyRead ((runK toy fs0 ts 0).getD [])) = some ('a', 'x') ∧
    toyFind 'b' (toyRead ((runK toy fs0 ts 0).getD [])) = some ('b', 'y') := by
  decide +kernel

end GroundTruth
end FsSync
