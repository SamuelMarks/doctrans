import DT.DocScan
/-! Statement-level model of `emitter_utils.to_docstring` (ReST, `word_wrap=False`): the docstring the function and
    class emitters put into the definitions they build - header, one block per entry (`_param2docstring_param`:
    `extract_default`, `set_default_doc`, `indent_all_but_first`, `multiline`, `emit_param_str`, the `_joiner`), the
    return block. Tied to the code by the driver operation `to_docstring`. -/
namespace Py
namespace ToDocstring
open DocScan

def tabs (n : Nat) : Str := (List.replicate n tab).flatten

/-- `indent_all_but_first(s, indent_level)` (`wipe_indents=False`) -/
def indentAllButFirstN (level : Nat) (s : Str) : Str :=
  match splitOnChar '\n' (indentLines (tabs level) s) with
  | [] => []
  | l0 :: rest => joinWith ['\n'] (stripLeft pyWs l0 :: rest)

/-- `multiline(s, quote_with=("", ""))`: every line followed by ` \` and a line break, the pieces joined by a tab, the
    end right-stripped of blanks, line breaks and back-slashes -/
def multiline (s : Str) : Str :=
  stripRight [' ', '\n', '\\'] (joinWith tab ((splitLines s).map fun l => l ++ [' ', '\\', '\n']))

/-- `s.replace("\n", "\n" + sep)` -/
def reindent (sep : Str) (s : Str) : Str := joinWith (['\n'] ++ sep) (splitOnChar '\n' s)

/-- the `key` / `key_typ` of the lines `":{key}: {doc}"` / `":{key_typ}: ```{typ}```"`, which go through
    `indent_all_but_first` (level 1), as `emit_param_str` does for the ReST style with one of `emit_doc` / `emit_type` off -/
def keyOf (name : Str) : Str := if name == retName then kReturns else kParam ++ name
def keyTypOf (name : Str) : Str := if name == retName then kRtype else kType ++ name

/-- `_param2docstring_param((name, param))`: the block (`none` = the entry writes nothing) and the entry as the
    function leaves it (it works on the dict it is given: the default read from the prose, the prose with its default
    sentence, a `NoneStr` default rewritten to None all stay - the class emitter builds its attributes from that) -/
def entryBlockP (name : Str) (p : Param) (edd : Bool) (level : Nat) (emitTypes : Bool) : Res (Option Str × Param) :=
  let sepIn := tabs level
  -- `if "doc" in _param: doc, default = extract_default(...); if default is not None: _param["default"] = default`
  let p1 : Res Param := match p.doc with
    | some d => (extractDefault d none edd).bind fun e =>
        .ok (match e.default with | some v => { p with default := some v } | none => p)
    | none => .ok p
  p1.bind fun p1 =>
  let docTruthy := match p1.doc with | some d => !d.isEmpty | none => false
  let first : Res (Option Str × Param) :=
    if docTruthy then
      (setDefaultDoc name p1 edd).bind fun p2 =>
      match p2.doc with
      | none => .raises "KeyError"
      | some sdd =>
        let ml := multiline (indentAllButFirstN (level - 1) sdd)
        let p3 := { p2 with doc := some ml }
        -- `emit_param_str(..., emit_type=False)`
        if ml.isEmpty then .ok (some [], p3) else
        (setDefaultDoc name p3 edd).bind fun p4 =>
        match p4.doc with
        | some d4 => .ok (some (indentAllButFirst ([':'] ++ keyOf name ++ [':', ' '] ++ d4)), p4)
        | none => .raises "KeyError"
    else .ok (none, p1)
  first.bind fun (a, pa) =>
  let b : Option Str := match pa.typ with
    | some t => if t.isEmpty || !emitTypes then none
                else some (indentAllButFirst ([':'] ++ keyTypOf name ++ [':', ' ', '`', '`', '`'] ++ t ++ ['`', '`', '`']))
    | none => none
  -- `_joiner(__param, param_type)`
  match a, b with
  | some a, none => .ok (some (a ++ ['\n'] ++ sepIn), pa)
  | none, _ => .ok (none, pa)
  | some a, some b => .ok (some (reindent sepIn a ++ ['\n'] ++ sepIn ++ reindent sepIn b ++ ['\n'] ++ sepIn), pa)

def entryBlock (name : Str) (p : Param) (edd : Bool) (level : Nat) (emitTypes : Bool) : Res (Option Str) :=
  (entryBlockP name p edd level emitTypes).bind fun x => .ok x.1

/-- the entries as `to_docstring` leaves them -/
def mutatedParams (edd : Bool) (level : Nat) (emitTypes : Bool) : List (Str × Param) → Res (List (Str × Param))
  | [] => .ok []
  | (n, p) :: rest =>
    (entryBlockP n p edd level emitTypes).bind fun x =>
    (mutatedParams edd level emitTypes rest).bind fun r => .ok ((n, x.2) :: r)

def entryBlocks (edd : Bool) (level : Nat) (emitTypes : Bool) : List (Str × Param) → Res (List Str)
  | [] => .ok []
  | (n, p) :: rest =>
    (entryBlock n p edd level emitTypes).bind fun b =>
    (entryBlocks edd level emitTypes rest).bind fun bs =>
    .ok (match b with | some s => if s.isEmpty then bs else s :: bs | none => bs)     -- `filter(None, ...)`

/-- `to_docstring(ir, emit_default_doc, docstring_format="rest", indent_level, emit_types, emit_separating_tab,
    word_wrap=False)` -/
def toDocstring (ir : IR) (edd : Bool) (level : Nat) (emitTypes emitSepTab : Bool) : Res Str :=
  if otherSeparators ir.doc || ir.params.any (fun kp => otherSeparators (kp.2.doc.getD [])) ||
      otherSeparators ((ir.returns.bind (·.doc)).getD []) then .unmodelled "line separators other than \\n" else
  let sep := if emitSepTab then tabs level else []
  let header : Str :=
    if ir.doc.isEmpty then []
    else ['\n'] ++ indentLines sep ir.doc ++
      (if endsWith (stripRight [' ', '\t'] ir.doc) ['\n'] then [] else ['\n']) ++ sep
  (entryBlocks edd level emitTypes ir.params).bind fun blocks =>
  let params : Str :=
    if ir.params.isEmpty then []
    else ['\n'] ++ sep ++ joinWith (['\n'] ++ sep) blocks ++ ['\n'] ++ sep
  let returns : Res Str := match ir.returns with
    | none => .ok []
    | some r =>
      -- (`{"return_type": {}}`: an empty entry writes nothing)
      if r.doc.isNone && r.typ.isNone && r.default.isNone then .ok [] else
      (entryBlock retName r edd level emitTypes).bind fun b =>
      match b with
      | some s => if s.isEmpty then .ok [] else .ok (stripRight pyWs s ++ ['\n'] ++ sep)
      | none => .ok []
  returns.bind fun rs => .ok (header ++ params ++ rs)

end ToDocstring
end Py
