import DT.FsSync
/-! C20 with BUFFERED writes: `f.write(src)` only fills a buffer; the bytes reach the disk when the file is flushed and
    closed at the end of the `with` block - and that is where a full disk, a quota or a file-size limit raises. The
    atomic variant of `emit.file` moves the temporary file over the target AFTER the `with` block; moving it inside
    the block (before the flush) is not all-or-nothing any more. -/
namespace FsSync
namespace Buffered

/-- a file system plus the pending bytes of the one file being written (the handle follows the file through a rename) -/
structure St where
  fs : FS
  handle : Option Path := none      -- the current name of the open file
  pending : Text := []

inductive BStep where
  | openTrunc (p : Path)
  | write (chunk : Text)            -- into the buffer
  | flushClose                      -- the end of the `with` block
  | replace (src dst : Path)

/-- a completed step -/
def bstep (s : St) : BStep → St
  | .openTrunc p => { fs := s.fs.set p (some []), handle := some p, pending := [] }
  | .write c => { s with pending := s.pending ++ c }
  | .flushClose =>
    match s.handle with
    | some p => { fs := s.fs.set p (some ((s.fs p).getD [] ++ s.pending)), handle := none, pending := [] }
    | none => s
  | .replace src dst =>
    { s with fs := (s.fs.set dst (s.fs src)).set src none,
             handle := if s.handle = some src then some dst else s.handle }

/-- the step that FAILS: nothing happens, except that a failing flush has already written `k` bytes -/
def bfail (s : St) (k : Nat) : BStep → St
  | .flushClose =>
    match s.handle with
    | some p => { fs := s.fs.set p (some ((s.fs p).getD [] ++ s.pending.take k)), handle := none, pending := [] }
    | none => s
  | _ => s

/-- run the steps; `fault = some (i, k)`: step `i` fails (a flush after `k` bytes) and the rest is not executed -/
def brun (s : St) : List BStep → Option (Nat × Nat) → St
  | [], _ => s
  | st :: _, some (0, k) => bfail s k st
  | st :: rest, some (i + 1, k) => brun (bstep s st) rest (some (i, k))
  | st :: rest, none => brun (bstep s st) rest none

/-- `emit.file` as it is: open the temporary file, write, leave the `with` block (flush + close), move -/
def atomicB (tmp p : Path) (src : Text) : List BStep := [.openTrunc tmp, .write src, .flushClose, .replace tmp p]

/-- the `except BaseException:` clean-up: the temporary file is removed when it exists -/
def cleanup (s : St) (tmp : Path) : FS := s.fs.set tmp none

theorem brun_atomicB (fs : FS) (tmp p : Path) (src : Text) :
    (brun { fs := fs } (atomicB tmp p src) none).fs = commit fs tmp p src := by
  simp [brun, atomicB, bstep, commit]

/-- `4` is the number of steps of `atomicB` -/
theorem brun_atomicB_fault (fs : FS) (tmp p : Path) (src : Text) (i k : Nat) (hi : i < 4) :
    cleanup (brun { fs := fs } (atomicB tmp p src) (some (i, k))) tmp = fs.set tmp none := by
  have : i = 0 ∨ i = 1 ∨ i = 2 ∨ i = 3 := by omega
  rcases this with rfl | rfl | rfl | rfl <;> simp [brun, atomicB, bstep, bfail, cleanup]

/-- **all or nothing, buffered**: whichever step fails - the flush after any number of bytes included - the target is
    byte-identical to before or holds the complete new contents, and no temporary file is left -/
theorem atomicB_all_or_nothing (fs : FS) (tmp p : Path) (src : Text) (hne : tmp ≠ p) (fault : Option (Nat × Nat)) :
    let out := match fault with
      | none => (brun { fs := fs } (atomicB tmp p src) none).fs
      | some f => if f.1 < 4 then cleanup (brun { fs := fs } (atomicB tmp p src) (some f)) tmp
                  else (brun { fs := fs } (atomicB tmp p src) none).fs
    (out p = fs p ∨ out p = some src) ∧ out tmp = none := by
  match fault with
  | none => simp [brun_atomicB, commit_p _ _ hne]
  | some (i, k) =>
    by_cases hi : i < 4
    · simp [hi, brun_atomicB_fault, hne.symm]
    · simp [hi, brun_atomicB, commit_p _ _ hne]

/-- the move INSIDE the `with` block: open, write, move, and only then flush + close -/
def moveBeforeFlush (tmp p : Path) (src : Text) : List BStep := [.openTrunc tmp, .write src, .replace tmp p, .flushClose]

/-- without a fault the two orders give the same file system -/
theorem moveBeforeFlush_same (fs : FS) (tmp p : Path) (src : Text) (hne : tmp ≠ p) :
    (brun { fs := fs } (moveBeforeFlush tmp p src) none).fs = (brun { fs := fs } (atomicB tmp p src) none).fs := by
  rw [brun_atomicB]
  funext q
  by_cases h1 : q = p <;> by_cases h2 : q = tmp <;> simp [brun, moveBeforeFlush, bstep, commit, FS.set, h1, h2, hne, hne.symm]

/-- ...but a flush that fails after one byte leaves the TARGET cut off: neither the old nor the new contents -/
theorem moveBeforeFlush_not_all_or_nothing :
    ∃ (fs : FS) (tmp p : Path) (src : Text) (k : Nat),
      let out := cleanup (brun { fs := fs } (moveBeforeFlush tmp p src) (some (3, k))) tmp
      out p ≠ fs p ∧ out p ≠ some src := by
  refine ⟨fun _ => some ['o', 'l', 'd'], 0, 1, ['n', 'e', 'w'], 1, ?_⟩
  simp [brun, moveBeforeFlush, bstep, bfail, cleanup, FS.set]

end Buffered
end FsSync
