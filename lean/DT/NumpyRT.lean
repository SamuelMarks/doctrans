import DT.DocParseTheorems
import DT.DocScanTheorems
/-! The whole-docstring round trip of the **numpydoc** style on the default-free domain, with or without a return entry:
    `emit.docstring` followed by `parse_docstring` (scan phase, line grouping, return split, entry parser,
    `interpolate_defaults`, `_set_name_and_type`). With a return entry the text goes through the `Returns` / `-------`
    section: the return split of `_return_parse_phase_numpydoc_and_google` (the units after the `-------` line become the
    return entry, the `Returns` and `-------` units are cut off the arguments, the blank unit before them stays among the
    arguments and is skipped by the entry parser) and the return branch of the parse phase. -/
namespace Py
namespace NumpyRT
open DocEmit DocScan DocParse

def headLine (n t : Str) : Str := n ++ [' ', ':'] ++ [' '] ++ t
def bodyLine (d : Str) : Str := tab4 ++ d
def entryText (x : Triple) : Str := headLine x.1 x.2.2 ++ ['\n'] ++ bodyLine x.2.1

/-- `DocEmit.indentLines` is `Py.indentLines` written again in its model file; the two unfold to the same term -/
theorem indent_one_line (d : Str) (hd : DocOK d) : DocEmit.indentLines tab4 d = tab4 ++ d :=
  indentLines_single tab4 d hd.oneLine hd.trimmed hd.ne

theorem emitNumpy_plain (name d t : Str) (hd : NDoc d) (ht : TypOK t) (e : Bool) :
    emitParamStrNumpy name (mkParam d t) e =
      .ok ((if name == retName then t else headLine name t) ++ ['\n'] ++ bodyLine d) := by
  have hsd := hd.setDefaultDoc_eq name t e
  have hne : (tab4 ++ d).isEmpty = false := by simp [tab4]
  unfold emitParamStrNumpy
  simp only [mkParam] at hsd ⊢
  simp only [nonEmpty, List.isEmpty_eq_false_iff.mpr ht.ne, List.isEmpty_eq_false_iff.mpr hd.1.ne, Bool.false_eq_true,
    if_false, hsd, Res.bind, indent_one_line d hd.1, Option.toList, hne]
  split <;> simp [joinWith, headLine, bodyLine]

def tailN : Str := ['\n', '\n', '\n']

/-- the emitted numpydoc text, cut where the scanner cuts it -/
def textN (D : Str) (ts : List Triple) : Str :=
  preN D ++ argToken .numpydoc ++ ['\n'] ++ joinWith ['\n'] (ts.map entryText) ++ tailN

def linesOf (ts : List Triple) : List Str := ts.flatMap fun x => [headLine x.1 x.2.2, bodyLine x.2.1]

def unitOf (x : Triple) : List Str := [headLine x.1 x.2.2, bodyLine x.2.1]

theorem linesOf_eq (ts : List Triple) : linesOf ts = (ts.map unitOf).flatten := by
  rw [linesOf, List.flatMap_def]; rfl

theorem linesOf_ne (ts : List Triple) (hne : ts ≠ []) : linesOf ts ≠ [] := by
  obtain ⟨x, r, rfl⟩ := List.exists_cons_of_ne_nil hne
  simp [linesOf]

theorem entries_as_lines (ts : List Triple) : joinWith ['\n'] (ts.map entryText) = joinWith ['\n'] (linesOf ts) := by
  rw [linesOf_eq, ← joinWith_flatten_groups ['\n'] (ts.map unitOf) (List.forall_mem_map.mpr fun _ _ => List.cons_ne_nil _ _),
    List.map_map]
  rfl  -- `entryText x` unfolds to `joinWith ['\n'] (unitOf x)`

def sRet : Str := ['R', 'e', 't', 'u', 'r', 'n', 's']
def sDash : Str := ['-', '-', '-', '-', '-', '-', '-']
theorem retTok_eq : returnToken .numpydoc = sRet ++ ['\n'] ++ sDash := String.toList_ofList

def retLines (tr dr : Str) : List Str := [[], sRet, sDash, tr, bodyLine dr]

def textNR (D : Str) (ts : List Triple) (dr tr : Str) : Str :=
  preN D ++ argToken .numpydoc ++ ['\n'] ++ joinWith ['\n'] (linesOf ts ++ retLines tr dr) ++ ['\n', '\n']

/-- the lines behind the entries -/
def retLinesO : Option (Str × Str) → List Str
  | none => [[]]
  | some x => retLines x.2 x.1

def textNo (D : Str) (ts : List Triple) (r : Option (Str × Str)) : Str :=
  preN D ++ argToken .numpydoc ++ '\n' :: (joinWith ['\n'] (linesOf ts ++ retLinesO r) ++ List.replicate 2 '\n')

theorem textNo_none (D : Str) (ts : List Triple) (hne : ts ≠ []) : textNo D ts none = textN D ts := by
  rw [textNo, textN, entries_as_lines ts, joinWith_append ['\n'] _ _ (linesOf_ne ts hne) (by simp [retLinesO])]
  simp [retLinesO, joinWith, tailN]

theorem textNo_some (D : Str) (ts : List Triple) (dr tr : Str) : textNo D ts (some (dr, tr)) = textNR D ts dr tr := by
  simp [textNo, textNR, retLinesO]

theorem emit_text (D : Str) (ts : List Triple) (r : Option (Str × Str)) (hne : ts ≠ []) (hok : ∀ x ∈ ts, TripleOK' x)
    (hr : RetOK' r) (e : Bool) :
    emitDocstring .numpydoc (mkIRo D ts r) e = .ok (textNo D ts r) := by
  have hents := emitEntries_map .numpydoc e entryText ts fun y hy => by
    have hy := hok y hy
    rw [emitEntry, emitNumpy_plain y.1 y.2.1 y.2.2 hy.2.1 hy.2.2 e, if_neg (by simpa using hy.1.notRet)]; rfl
  have hret : emitReturn .numpydoc (retParam r) e = .ok (joinWith ['\n'] (retLinesO r)) := by
    cases r with
    | none => rfl
    | some y =>
      simp only [emitReturn, retParam, Option.map_some, emitEntry, emitNumpy_plain retName y.1 y.2 (hr y rfl).1 (hr y rfl).2 e,
        Res.bind, beq_self_eq_true, if_true, retTok_eq]
      simp [retLinesO, retLines, joinWith]
  rw [textNo, joinWith_append ['\n'] _ _ (linesOf_ne _ hne) (by cases r <;> simp [retLinesO, retLines]),
    ← entries_as_lines]
  exact emitDocstring_closed .numpydoc (mkIRo D ts r) e _ _ (by simpa using hne) hents hret

theorem lws_margin {s : Str} (h : AtMargin s) : lws s = 0 := lws_pad [] s (by simp) h

theorem lws_head (n t : Str) (hne : n ≠ []) (h : AtMargin n) : lws (headLine n t) = 0 := by
  simpa [headLine] using lws_margin (h.append hne ([' ', ':'] ++ [' '] ++ t))

theorem lws_body (d : Str) : lws (bodyLine d) ≠ 0 := by
  have := lws_append_ge tab4 d (by decide)
  rw [bodyLine]; simp [tab4] at this ⊢; omega

theorem unitOf_grouped (x : Triple) (hne : x.1 ≠ []) (hm : AtMargin x.1) :
    ∃ l ls, unitOf x = l :: ls ∧ lws l = 0 ∧ ∀ y ∈ ls, lws y ≠ 0 :=
  ⟨_, _, rfl, lws_head x.1 x.2.2 hne hm, by simp [lws_body]⟩

def retUnits (tr dr : Str) : List (List Str) := [[[]], [sRet], [sDash], [tr, bodyLine dr], [[]]]

/-- the units the lines behind the entries are grouped into -/
def retUnitsO : Option (Str × Str) → List (List Str)
  | none => [[[]], [[]]]
  | some x => retUnits x.2 x.1

theorem retUnitsO_flatten (r : Option (Str × Str)) : (retUnitsO r).flatten = retLinesO r ++ [[]] := by
  cases r <;> rfl

theorem retUnitsO_grouped (r : Option (Str × Str)) (hr : ∀ x, r = some x → AtMargin x.2) :
    ∀ u ∈ retUnitsO r, ∃ l ls, u = l :: ls ∧ lws l = 0 ∧ ∀ y ∈ ls, lws y ≠ 0 := by
  cases r with
  | none => intro u hu; simp [retUnitsO] at hu; subst hu; exact ⟨_, _, rfl, rfl, by simp⟩
  | some x =>
    have ht : lws x.2 = 0 := lws_margin (hr x rfl)
    intro u hu
    simp only [retUnitsO, retUnits, List.mem_cons, List.not_mem_nil, or_false] at hu
    rcases hu with rfl | rfl | rfl | rfl | rfl
    · exact ⟨_, _, rfl, rfl, by simp⟩
    · exact ⟨_, _, rfl, by decide, by simp⟩
    · exact ⟨_, _, rfl, by decide, by simp⟩
    · exact ⟨_, _, rfl, ht, by simp [lws_body]⟩
    · exact ⟨_, _, rfl, rfl, by simp⟩

/-- the units of the entries (two lines) and the blank unit: none of them pairs up to the two lines the return split looks for -/
def UnitShape (u : List Str) : Prop := u.length = 2 ∨ u = [[]]

theorem splitsAt_eq (st : List (List Str)) (i : Nat) :
    splitsAt st i = (st[i]?.getD [] ++ st[i - 1]?.getD [] == [sDash, sRet]) := by
  rw [splitsAt, String.toList_ofList, String.toList_ofList]; rfl

theorem splitsAt_shape (st : List (List Str)) (i : Nat) (hu : UnitShape (st[i]?.getD []))
    (hv : UnitShape (st[i - 1]?.getD [])) : splitsAt st i = false := by
  rcases hu with hu | hu <;> rcases hv with hv | hv
  · exact splitsAt_length st i (by omega)
  · exact splitsAt_length st i (by simp [hv]; omega)
  · exact splitsAt_length st i (by simp [hu]; omega)
  · rw [splitsAt_eq, hu, hv]; rfl

theorem getD_shape (st : List (List Str)) (h : ∀ u ∈ st, UnitShape u) (i : Nat) (hi : i < st.length) :
    UnitShape (st[i]?.getD []) := by
  rw [List.getElem?_eq_getElem hi]
  exact h _ (List.getElem_mem hi)

theorem returnSplit_none (st : List (List Str)) (h : ∀ u ∈ st, UnitShape u) :
    ∀ k, k ≤ st.length → returnSplit st k = none := fun k hk =>
  returnSplit_none_of st k fun i _ hik =>
    splitsAt_shape st i (getD_shape st h i (by omega)) (getD_shape st h (i - 1) (by omega))

theorem returnSplit_retUnits (A : List (List Str)) (tr dr : Str) :
    returnSplit (A ++ retUnits tr dr) (A ++ retUnits tr dr).length = some (A.length + 2) := by
  have hlen : (A ++ retUnits tr dr).length = A.length + 5 := List.length_append
  refine returnSplit_some_of _ _ (Nat.le_add_left _ _) ?_ _ (by omega) fun j h1 h2 => ?_
  · rw [splitsAt_append A _ 1, splitsAt_eq]; exact beq_self_eq_true _
  · -- `retUnits` has five units, `Returns` at +1 and `-------` at +2; the pairs at the two positions above hold three lines
    obtain rfl | rfl : j = A.length + (2 + 1) ∨ j = A.length + (3 + 1) := by omega
    · rw [splitsAt_append]; exact splitsAt_length _ _ (Nat.succ_ne_self 2)
    · rw [splitsAt_append]; exact splitsAt_length _ _ (Nat.succ_ne_self 2)

/-- C01 (numpydoc): the `Returns` / `-------` pair is found right after the argument units and their trailing blank unit,
    whatever these units are (`returnSplit_retUnits`; the two hypotheses on them are not needed) -/
theorem returnSplit_found (A : List (List Str)) (tr dr : Str) (hA : ∀ u ∈ A, UnitShape u) (hAne : A ≠ []) :
    returnSplit (A ++ retUnits tr dr) (A ++ retUnits tr dr).length = some (A.length + 2) :=
  returnSplit_retUnits A tr dr

theorem headLine_no_nl (n t : Str) (hn : '\n' ∉ n) (ht : '\n' ∉ t) : '\n' ∉ headLine n t := by
  simp [headLine, hn, ht]

theorem bodyLine_no_nl (d : Str) (hd : '\n' ∉ d) : '\n' ∉ bodyLine d := by
  simp [bodyLine, tab4, hd]

theorem linesOf_no_nl (ts : List Triple) (hok : ∀ x ∈ ts, TripleOK' x) : ∀ l ∈ linesOf ts, '\n' ∉ l := by
  intro l hl
  simp only [linesOf, List.mem_flatMap, List.mem_cons, List.not_mem_nil, or_false] at hl
  obtain ⟨x, hx, rfl | rfl⟩ := hl
  · exact headLine_no_nl _ _ (hok x hx).1.noNl (hok x hx).2.2.oneLine
  · exact bodyLine_no_nl _ (hok x hx).2.1.1.oneLine

theorem retLinesO_no_nl (r : Option (Str × Str)) (hr : RetOK' r) : ∀ l ∈ retLinesO r, '\n' ∉ l := by
  cases r with
  | none => simp [retLinesO]
  | some x =>
    intro l hl
    simp only [retLinesO, retLines, List.mem_cons, List.not_mem_nil, or_false] at hl
    rcases hl with rfl | rfl | rfl | rfl | rfl
    · simp
    · decide
    · decide
    · exact (hr x rfl).2.oneLine
    · exact bodyLine_no_nl _ (hr x rfl).1.1.oneLine

/-- what the scan phase returns on the emitted text; the blank units directly behind the entries stay among the arguments -/
def scannedN (D : Str) (ts : List Triple) : Option (Str × Str) → Scanned
  | none => { doc := D, args := ts.map unitOf ++ [[[]], [[]]] }
  | some x => { doc := D, args := ts.map unitOf ++ [[[]]], rets := .units [[x.2, bodyLine x.1], [[]]] }

theorem scanPhase_text (D : Str) (ts : List Triple) (r : Option (Str × Str)) (hne : ts ≠ [])
    (hok : ∀ x ∈ ts, TripleOK' x) (hmargin : ∀ x ∈ ts, AtMargin x.1) (hr : RetOK' r)
    (hrm : ∀ x, r = some x → AtMargin x.2) (hDne : D ≠ []) (hDt : Trimmed D) (hP : 'P' ∉ D)
    (hsep : otherSeparators (textNo D ts r) = false) :
    scanPhase .numpydoc (textNo D ts r) = .ok (scannedN D ts r) := by
  obtain ⟨x, xs, rfl⟩ := List.exists_cons_of_ne_nil hne
  have hl := splitLines_joined (linesOf (x :: xs) ++ retLinesO r) 1 (by simp [linesOf])
    (List.forall_mem_append.mpr ⟨linesOf_no_nl _ hok, retLinesO_no_nl r hr⟩)
  have hfi : lws (headLine x.1 x.2.2) = 0 := lws_head x.1 x.2.2 (hok x (by simp)).1.ne (hmargin x (by simp))
  have hfold : (linesOf (x :: xs) ++ retLinesO r ++ List.replicate 1 []).foldl (groupStep 0) [] =
      (x :: xs).map unitOf ++ retUnitsO r := by
    rw [List.replicate_one, List.append_assoc, ← retUnitsO_flatten, linesOf_eq, ← List.flatten_append,
      fold_groupStep_units 0 _ [] (List.forall_mem_append.mpr
        ⟨List.forall_mem_map.mpr fun y hy => unitOf_grouped y (hok y hy).1.ne (hmargin y hy),
          retUnitsO_grouped r hrm⟩), List.nil_append]
  have hP' : 'P' ∉ preN D := by simp [preN, hP]
  rw [textNo] at hsep ⊢
  rw [scanPhase_section .numpydoc _ _ 'P' (argToken_head .numpydoc) hP' hsep _ _ hl rfl, hfi, strip_preN D hDne hDt,
    scanLoop_fold .numpydoc _ 0 _ 0 _ (by simp) (fun _ _ => Nat.zero_le _) (Or.inr fun _ h => by cases h; exact hfi),
    List.drop_zero, hfold, Res.bind]
  cases r with
  | none =>
    have hshape : ∀ u ∈ (x :: xs).map unitOf ++ retUnitsO none, UnitShape u :=
      List.forall_mem_append.mpr ⟨List.forall_mem_map.mpr fun _ _ => Or.inl rfl, by simp [retUnitsO, UnitShape]⟩
    rw [scanTail_args _ _ (by simp) rfl (returnSplit_none _ hshape _ (Nat.le_refl _))]
    rfl
  | some y =>
    exact scanTail_split _ ((x :: xs).map unitOf ++ [[[]]]) [[y.2, bodyLine y.1], [[]]] [sRet] [sDash]
      (List.append_assoc _ [[[]]] _).symm (List.append_ne_nil_of_right_ne_nil _ (List.cons_ne_nil _ _)) rfl rfl
      (by rw [List.length_append (bs := [[[]]])]; exact returnSplit_retUnits ((x :: xs).map unitOf) y.2 y.1)

theorem parseUnit_blank : parseUnit .numpydoc [[]] = .ok none := by decide

theorem parseNumpy_unit (x : Triple) (hx : TripleOK' x) (hnt : Trimmed x.1) :
    parseNumpy (unitOf x) = .ok (some (x.1, { typ := some x.2.2, doc := some x.2.1 })) :=
  parseNumpy_emitted x.1 x.2.2 x.2.1 hx.1.noColon hx.1.ne hnt hx.2.2.trimmed hx.2.2.ne hx.2.1.1.trimmed

theorem parseEntries_blank (e : Bool) : ∀ (k : Nat) (flag : Bool),
    parseEntries .numpydoc e false true (List.replicate k [[]]) flag = .ok ([], flag)
  | 0, _ => rfl
  | k + 1, flag => by
    rw [List.replicate_succ, parseEntries_cons_skip .numpydoc e false true _ _ flag parseUnit_blank,
      parseEntries_blank e k flag]

theorem endsWith_colon_head (n t : Str) (hne : t ≠ []) (h : endsWith t [':'] = false) : endsWith (headLine n t) [':'] = false := by
  obtain ⟨c, r, hr⟩ := List.exists_cons_of_ne_nil (by simpa using hne : t.reverse ≠ [])
  rw [endsWith, hr] at h
  rw [endsWith, headLine, List.reverse_append, hr]
  simpa [List.isPrefixOf] using h

theorem parse_text (D : Str) (ts : List Triple) (r : Option (Str × Str)) (hne : ts ≠ []) (hok : ∀ x ∈ ts, TripleOK' x)
    (hmargin : ∀ x ∈ ts, AtMargin x.1) (hnt : ∀ x ∈ ts, Trimmed x.1)
    (hcolon : ∀ x ∈ ts, endsWith x.2.2 [':'] = false) (hr : RetOK' r) (hrm : ∀ x, r = some x → AtMargin x.2)
    (hDne : D ≠ []) (hDt : Trimmed D) (hP : 'P' ∉ D)
    (hsep : otherSeparators (textNo D ts r) = false) (hnd : (ts.map (·.1)).Nodup) (e : Bool) :
    parseDocstring .numpydoc (textNo D ts r) e = .ok (mkIRo D ts r) := by
  have hscan := scanPhase_text D ts r hne hok hmargin hr hrm hDne hDt hP hsep
  have hunits := fun k => parseEntries_plain .numpydoc e unitOf (List.replicate k [[]]) ts hok
    (fun x hx => parseNumpy_unit x (hok x hx) (hnt x hx)) (parseEntries_blank e k false)
  have hsec : ∀ k, ∀ u ∈ ts.map unitOf ++ List.replicate k [[]], startsSection u = false := fun k =>
    List.forall_mem_append.mpr
      ⟨List.forall_mem_map.mpr fun y hy => endsWith_colon_head y.1 y.2.2 (hok y hy).2.2.ne (hcolon y hy),
        List.forall_mem_replicate.mpr (.inr rfl)⟩
  cases r with
  | none => exact parseDocstring_of_scan .numpydoc _ D e _ _ ts none hscan (hsec 2) (hunits 2) hnd hr.retOK rfl
  | some x =>
    refine parseDocstring_of_scan .numpydoc _ D e _ _ ts (some x) hscan (hsec 1) (hunits 1) hnd hr.retOK ⟨rfl, ?_⟩
    have hdl : lstripWs (bodyLine x.1) = x.1 := stripLeft_pad pyWs tab4 x.1 (by decide) (hr x rfl).1.1.trimmed.1
    simp [returnParam, hdl]

/-- **C01 (numpydoc), default-free domain, with or without a return entry**; the two statements below are its cases -/
theorem C01_numpydoc_partial (D : Str) (ts : List Triple) (r : Option (Str × Str)) (hne : ts ≠ [])
    (hok : ∀ x ∈ ts, TripleOK' x) (hmargin : ∀ x ∈ ts, AtMargin x.1) (hnt : ∀ x ∈ ts, Trimmed x.1)
    (hcolon : ∀ x ∈ ts, endsWith x.2.2 [':'] = false) (hr : RetOK' r) (hrm : ∀ x, r = some x → AtMargin x.2)
    (hDne : D ≠ []) (hDt : Trimmed D) (hP : 'P' ∉ D)
    (hsep : otherSeparators (textNo D ts r) = false) (hnd : (ts.map (·.1)).Nodup) (e e' : Bool) :
    ((emitDocstring .numpydoc (mkIRo D ts r) e).bind fun text => parseDocstring .numpydoc text e') = .ok (mkIRo D ts r) := by
  rw [emit_text D ts r hne hok hr e]
  exact parse_text D ts r hne hok hmargin hnt hcolon hr hrm hDne hDt hP hsep hnd e'

/-- **C01 (numpydoc) on the default-free domain**: a trimmed summary and ≥ 1 uniquely named parameters, each with a
    type and one line of prose, no defaults, no return entry: `emit.docstring` then `parse_docstring` is the identity and
    raises nothing - for any number of parameters and texts of any length. (Restrictions that make the statement
    partial: the summary does not contain the capital letter the section token starts with; names start at the left
    margin and are trimmed; a type does not end with a colon; no line separator other than `\n` anywhere.) -/
theorem C01_numpydoc_nodefault_partial (D : Str) (ts : List Triple) (hne : ts ≠ []) (hok : ∀ x ∈ ts, TripleOK' x)
    (hmargin : ∀ x ∈ ts, AtMargin x.1) (hnt : ∀ x ∈ ts, Trimmed x.1)
    (hcolon : ∀ x ∈ ts, endsWith x.2.2 [':'] = false)
    (hDne : D ≠ []) (hDt : Trimmed D) (hP : 'P' ∉ D)
    (hsep : otherSeparators (textN D ts) = false) (hnd : (ts.map (·.1)).Nodup) (e e' : Bool) :
    ((emitDocstring .numpydoc (mkIR D ts) e).bind fun text => parseDocstring .numpydoc text e') = .ok (mkIR D ts) :=
  C01_numpydoc_partial D ts none hne hok hmargin hnt hcolon (fun _ h => nomatch h) (fun _ h => nomatch h) hDne hDt hP
    (by rw [textNo_none D ts hne]; exact hsep) hnd e e'

/-- **C01 (numpydoc) with a return entry, default-free domain**: a trimmed summary, ≥ 1 uniquely named parameters and a
    return entry, each with a type and one line of prose, no defaults: `emit.docstring` then `parse_docstring` is the
    identity and raises nothing - any number of parameters, texts of any length. The `Returns` / `-------` pair is found by
    the return split right after the argument units, whatever the arguments are. (Restrictions as in
    `C01_numpydoc_nodefault_partial`, and the return type starts at the left margin.) -/
theorem C01_numpydoc_return_partial (D : Str) (ts : List Triple) (dr tr : Str) (hne : ts ≠ []) (hok : ∀ x ∈ ts, TripleOK' x)
    (hmargin : ∀ x ∈ ts, AtMargin x.1) (hnt : ∀ x ∈ ts, Trimmed x.1)
    (hcolon : ∀ x ∈ ts, endsWith x.2.2 [':'] = false)
    (hd : NDoc dr) (ht : TypOK tr) (htm : AtMargin tr)
    (hDne : D ≠ []) (hDt : Trimmed D) (hP : 'P' ∉ D)
    (hsep : otherSeparators (textNR D ts dr tr) = false) (hnd : (ts.map (·.1)).Nodup) (e e' : Bool) :
    ((emitDocstring .numpydoc (mkIRr D ts dr tr) e).bind fun text => parseDocstring .numpydoc text e') = .ok (mkIRr D ts dr tr) :=
  C01_numpydoc_partial D ts (some (dr, tr)) hne hok hmargin hnt hcolon (fun _ h => by cases h; exact ⟨hd, ht⟩)
    (fun _ h => by cases h; exact htm) hDne hDt hP (by rw [textNo_some]; exact hsep) hnd e e'

end NumpyRT
end Py
