import DT.Kinds
/-! Theorems about the interface-level normal forms (C02, C03, C04, C05, C08). Every kind maps one function over
    the entries (`entryFn`) and one over the return entry (`retFn`), and every entry function leaves an explicit
    default alone and rewrites the others (`fillWith`); preservation and idempotence are proved of these two shapes. -/
namespace Py
namespace Kinds

/-- what a conversion may do to an entry: prose and type kept, an explicit (not none-like) default kept -/
def Pres (p q : Param) : Prop :=
  q.doc = p.doc ∧ q.typ = p.typ ∧ ∀ v, p.default = some v → isNoneVal v = false → q.default = some v

theorem Pres.refl (p : Param) : Pres p p := ⟨rfl, rfl, fun _ h _ => h⟩

theorem Pres.trans {p q r : Param} (h1 : Pres p q) (h2 : Pres q r) : Pres p r :=
  ⟨h2.1.trans h1.1, h2.2.1.trans h1.2.1, fun v hv hn => h2.2.2 v (h1.2.2 v hv hn) hn⟩

/-- the shape of every per-kind entry normalisation: an explicit default is left alone, a none-like one goes through `f`,
    an absent one through `g` -/
def fillWith (f g : Param → Param) (p : Param) : Param :=
  match p.default with
  | some v => if isNoneVal v then f p else p
  | none => g p

theorem normClassParam_eq : normClassParam = fillWith classFill classFill := rfl

theorem normFuncParam_eq :
    normFuncParam = fillWith (fun p => { p with default := some vNoneStr }) (fun p => { p with default := some vNoneStr }) :=
  rfl

theorem normArgparseParam_eq (p : Param) (t : Str) (ht : p.typ = some t) :
    normArgparseParam p = fillWith (argFill t) (argFill t) p := by
  unfold normArgparseParam; rw [ht]; rfl

theorem normDocEntry_eq (st : DocStyle) (n : Str) :
    normDocEntry st n = fillWith
      (fun p => { p with default := some (if kwargsName n then vNoneStr else match st with | .rest => .str sNone | _ => vNoneStr) })
      (fun p => if kwargsName n then { p with default := some vNoneStr } else p) := rfl

/-- the one case analysis on the default of an entry -/
theorem fillWith_cases {motive : Param → Prop} (f g : Param → Param) (p : Param)
    (hf : ∀ v, p.default = some v → isNoneVal v = true → motive (f p))
    (hg : p.default = none → motive (g p))
    (hp : ∀ v, p.default = some v → isNoneVal v = false → motive p) : motive (fillWith f g p) := by
  unfold fillWith
  cases h : p.default with
  | none => exact hg h
  | some v =>
    show motive (if isNoneVal v = true then f p else p)
    cases hn : isNoneVal v with
    | true => exact hf v h hn
    | false => exact hp v h hn

theorem fillWith_some (f g : Param → Param) (p : Param) (v : Val) (h : p.default = some v) :
    fillWith f g p = if isNoneVal v then f p else p := by unfold fillWith; rw [h]

theorem fillWith_explicit (f g : Param → Param) (p : Param) (v : Val) (h : p.default = some v)
    (hn : isNoneVal v = false) : fillWith f g p = p := by
  rw [fillWith_some f g p v h, hn]; rfl

/-- absent, `None` or the code-quoted None: the three ways of having no value -/
theorem fillWith_noValue (f : Param → Param) (p : Param)
    (h : p.default = none ∨ p.default = some .none ∨ p.default = some (.str noneStr)) : fillWith f f p = f p := by
  unfold fillWith
  rcases h with h | h | h <;> rw [h] <;> rfl

/-- a rewrite that only touches the default of entries without an explicit one preserves the entry -/
theorem pres_fillWith (f g : Param → Param) (p : Param)
    (hf : (f p).doc = p.doc ∧ (f p).typ = p.typ) (hg : (g p).doc = p.doc ∧ (g p).typ = p.typ) :
    Pres p (fillWith f g p) :=
  fillWith_cases f g p
    (fun v hv hn => ⟨hf.1, hf.2, fun w hw hwn => by rw [hv] at hw; cases hw; rw [hn] at hwn; cases hwn⟩)
    (fun h => ⟨hg.1, hg.2, fun w hw _ => by rw [h] at hw; cases hw⟩)
    (fun _ _ _ => Pres.refl p)

/-- one pass is enough as soon as a second pass leaves what `f` and `g` wrote alone -/
theorem fillWith_idem (f g : Param → Param) (p : Param)
    (hf : p.default ≠ none → fillWith f g (f p) = f p) (hg : p.default = none → fillWith f g (g p) = g p) :
    fillWith f g (fillWith f g p) = fillWith f g p :=
  fillWith_cases (motive := fun q => fillWith f g q = q) f g p (fun _ h _ => hf (by simp [h])) hg
    (fun v hv hn => fillWith_explicit f g p v hv hn)

/-! `classFill` and `argFill` write a default and nothing else -/

theorem classFill_eq (p : Param) : classFill p =
    { p with default := some (match p.typ with | some t => if isScalar t then zeroOf t else vNoneStr | none => vNoneStr) } := by
  unfold classFill; cases p.typ <;> rfl

theorem argFill_eq (t : Str) (p : Param) : argFill t p =
    { p with default := some (if isScalar t then zeroOf t else match listInner t with
        | some i => zeroOf i
        | none => if isLiteral t then .str [] else vNoneStr) } := by
  unfold argFill
  cases isScalar t
  · cases listInner t
    · cases isLiteral t <;> rfl
    · rfl
  · rfl

theorem classFill_idem (p : Param) : classFill (classFill p) = classFill p := by simp only [classFill_eq]

theorem argFill_typ (t : Str) (p : Param) : (argFill t p).typ = p.typ := by rw [argFill_eq]

theorem argFill_idem (t : Str) (p : Param) : argFill t (argFill t p) = argFill t p := by simp only [argFill_eq]

theorem isScalar_iff (t : Str) : isScalar t = true ↔ t = tInt ∨ t = tFloat ∨ t = tStr ∨ t = tBool := by
  simp only [isScalar, Bool.or_eq_true, beq_iff_eq, or_assoc]

@[elab_as_elim]
theorem isScalar_cases {motive : Str → Prop} (int : motive tInt) (float : motive tFloat) (str : motive tStr)
    (bool : motive tBool) {t : Str} (h : isScalar t = true) : motive t := by
  rcases (isScalar_iff t).mp h with h | h | h | h <;> subst h <;> assumption

theorem zeroOf_cases (t : Str) :
    zeroOf t = .int false ['0'] ∨ zeroOf t = .float ['0', '.', '0'] ∨ zeroOf t = .bool false ∨ zeroOf t = .str [] := by
  unfold zeroOf
  split
  · exact .inl rfl
  · split
    · exact .inr (.inl rfl)
    · split
      · exact .inr (.inr (.inl rfl))
      · exact .inr (.inr (.inr rfl))

theorem isNoneVal_zeroOf (t : Str) : isNoneVal (zeroOf t) = false := by
  rcases zeroOf_cases t with h | h | h | h <;> rw [h] <;> rfl

theorem isNoneVal_vNoneStr : isNoneVal vNoneStr = true := by decide

theorem pres_class (p : Param) : Pres p (normClassParam p) := by
  have h : (classFill p).doc = p.doc ∧ (classFill p).typ = p.typ := by rw [classFill_eq]; exact ⟨rfl, rfl⟩
  exact pres_fillWith classFill classFill p h h

theorem pres_func (p : Param) : Pres p (normFuncParam p) := by
  rw [normFuncParam_eq]; exact pres_fillWith _ _ p ⟨rfl, rfl⟩ ⟨rfl, rfl⟩

theorem pres_argparse (p : Param) : Pres p (normArgparseParam p) := by
  cases ht : p.typ with
  | none => unfold normArgparseParam; rw [ht]; exact Pres.refl p
  | some t =>
    have h : (argFill t p).doc = p.doc ∧ (argFill t p).typ = p.typ := by rw [argFill_eq]; exact ⟨rfl, rfl⟩
    rw [normArgparseParam_eq p t ht]
    exact pres_fillWith (argFill t) (argFill t) p h h

theorem pres_doc (st : DocStyle) (n : Str) (p : Param) : Pres p (normDocEntry st n p) := by
  rw [normDocEntry_eq]
  exact pres_fillWith _ _ p ⟨rfl, rfl⟩ (by split <;> exact ⟨rfl, rfl⟩)

def PresList : ODict Param → ODict Param → Prop
  | [], [] => True
  | (k, p) :: r, (k', p') :: r' => k = k' ∧ Pres p p' ∧ PresList r r'
  | _, _ => False

theorem PresList.refl : ∀ l, PresList l l
  | [] => trivial
  | (_, p) :: r => ⟨rfl, Pres.refl p, PresList.refl r⟩

theorem PresList.trans : ∀ {a b c : ODict Param}, PresList a b → PresList b c → PresList a c
  | [], [], [], _, _ => trivial
  | (_, _) :: _, (_, _) :: _, (_, _) :: _, h1, h2 =>
    ⟨h1.1.trans h2.1, h1.2.1.trans h2.2.1, PresList.trans h1.2.2 h2.2.2⟩
  | [], [], _ :: _, _, h2 => h2.elim
  | [], _ :: _, _, h1, _ => h1.elim
  | _ :: _, [], _, h1, _ => h1.elim
  | (_, _) :: _, (_, _) :: _, [], _, h2 => h2.elim

theorem PresList.keys : ∀ {a b : ODict Param}, PresList a b → a.map (·.1) = b.map (·.1)
  | [], [], _ => rfl
  | (k, _) :: r, (k', _) :: r', h => by
    simp only [List.map_cons, h.1, PresList.keys h.2.2]
  | [], _ :: _, h => h.elim
  | _ :: _, [], h => h.elim

theorem presList_mapKey (f : Str → Param → Param) (hf : ∀ n p, Pres p (f n p)) :
    ∀ l : ODict Param, PresList l (l.map fun kp => (kp.1, f kp.1 kp.2))
  | [] => trivial
  | (k, p) :: r => ⟨rfl, hf k p, presList_mapKey f hf r⟩

/-- same summary; same parameter names in the same order; prose, type and explicit default of every
    parameter kept; the return entry kept in the same sense, or lost — never invented -/
structure PresIR (a b : IR) : Prop where
  doc : b.doc = a.doc
  params : PresList a.params b.params
  returns : b.returns = none ∨ ∃ r r', a.returns = some r ∧ b.returns = some r' ∧ Pres r r'

theorem PresIR.refl (a : IR) : PresIR a a :=
  ⟨rfl, PresList.refl _, by cases h : a.returns with
    | none => exact Or.inl rfl
    | some r => exact Or.inr ⟨r, r, rfl, rfl, Pres.refl r⟩⟩

theorem PresIR.trans {a b c : IR} (h1 : PresIR a b) (h2 : PresIR b c) : PresIR a c := by
  refine ⟨h2.doc.trans h1.doc, PresList.trans h1.params h2.params, ?_⟩
  rcases h2.returns with h | ⟨r, r', hb, hc, hp⟩
  · exact Or.inl h
  · rcases h1.returns with h | ⟨q, q', ha, hb', hp'⟩
    · rw [h] at hb; cases hb
    · rw [hb'] at hb; cases hb
      exact Or.inr ⟨q, r', ha, hc, hp'.trans hp⟩

def entryFn (k : Kind) (n : Str) (p : Param) : Param :=
  match k with
  | .cls => normClassParam p
  | .func _ => normFuncParam p
  | .argparse => normArgparseParam p
  | .doc st => normDocEntry st n p

def retFn (k : Kind) (r : Option Param) : Option Param :=
  match k with
  | .cls => r.map normClassParam
  | .func _ => r
  | .argparse => r.filter (·.default.isSome)
  | .doc _ => r.map (normDocEntry .rest [])

/-- entries are converted independently (what the per-entry correspondence of C02–C05 rests on) -/
theorem norm_eq (k : Kind) (ir : IR) :
    norm k ir = { ir with params := ir.params.map (fun kp => (kp.1, entryFn k kp.1 kp.2)), returns := retFn k ir.returns } := by
  cases k <;> simp only [norm, mapParams, entryFn, retFn]
  cases ir.returns <;> simp [Option.filter]

theorem norm_params (k : Kind) (ir : IR) :
    (norm k ir).params = ir.params.map (fun kp => (kp.1, entryFn k kp.1 kp.2)) := by
  rw [norm_eq]

theorem entryFn_pres (k : Kind) (n : Str) (p : Param) : Pres p (entryFn k n p) := by
  cases k
  · exact pres_class p
  · exact pres_func p
  · exact pres_argparse p
  · exact pres_doc _ n p

theorem retFn_pres (k : Kind) (r : Option Param) :
    retFn k r = none ∨ ∃ a b, r = some a ∧ retFn k r = some b ∧ Pres a b := by
  cases r with
  | none => cases k <;> exact Or.inl rfl
  | some a =>
    cases k with
    | cls => exact Or.inr ⟨a, _, rfl, rfl, pres_class a⟩
    | func i => exact Or.inr ⟨a, a, rfl, rfl, Pres.refl a⟩
    | argparse =>
      cases h : a.default.isSome
      · exact Or.inl (by simp [retFn, Option.filter, h])
      · exact Or.inr ⟨a, a, rfl, by simp [retFn, Option.filter, h], Pres.refl a⟩
    | doc st => exact Or.inr ⟨a, _, rfl, rfl, pres_doc .rest [] a⟩

/-- **C02 / C03 / C04 at interface level**: one conversion keeps names, order, prose, types and
    explicit defaults; it only fills absent defaults (the documented normalisation) and, for argparse,
    may drop a return entry that carries no default. -/
theorem norm_pres (k : Kind) (ir : IR) : PresIR ir (norm k ir) := by
  rw [norm_eq]
  exact ⟨rfl, presList_mapKey (entryFn k) (entryFn_pres k) ir.params, retFn_pres k ir.returns⟩

/-- **C05**: a chain of conversions of ANY length through ANY kinds preserves the interface in the
    sense of `PresIR` (names, order, prose, types, explicit defaults; nothing invented or swapped
    between parameters — `PresList` relates the entry at position i only to the entry at position i). -/
theorem chain_pres : ∀ (ks : List Kind) (ir : IR), PresIR ir (ks.foldl (fun a k => norm k a) ir) :=
  fun ks ir => List.foldlRecOn ks _ (PresIR.refl ir) fun a ha k _ => ha.trans (norm_pres k a)

theorem chain_cons {k : Kind} {ks : List Kind} {ir out : IR} (h : chain (k :: ks) ir = some out) :
    dom k ir = true ∧ chain ks (norm k ir) = some out := by
  simp only [chain] at h
  split at h
  · exact ⟨‹_›, h⟩
  · cases h

theorem chain_eq_fold : ∀ (ks : List Kind) (ir out : IR), chain ks ir = some out →
    out = ks.foldl (fun a k => norm k a) ir
  | [], ir, out, h => by simp [chain] at h; exact h.symm
  | k :: ks, ir, out, h => chain_eq_fold ks (norm k ir) out (chain_cons h).2

theorem chain_ok_pres (ks : List Kind) (ir out : IR) (h : chain ks ir = some out) : PresIR ir out := by
  rw [chain_eq_fold ks ir out h]; exact chain_pres ks ir

/-- of the unconditional fold of `norm` (what `chain` returns when its domain checks pass, `chain_eq_fold`) -/
theorem chain_names (ks : List Kind) (ir : IR) :
    (ks.foldl (fun a k => norm k a) ir).params.map (·.1) = ir.params.map (·.1) :=
  (PresList.keys (chain_pres ks ir).params).symm

/-- a second pass leaves the default `classFill` wrote alone or, where it is none-like, writes the same one again -/
theorem normClassParam_fill (p : Param) : normClassParam (classFill p) = classFill p := by
  rw [normClassParam_eq, fillWith_some classFill classFill (classFill p) _ (by rw [classFill_eq]), classFill_idem]
  exact ite_self _

theorem normClassParam_idem (p : Param) : normClassParam (normClassParam p) = normClassParam p :=
  fillWith_idem classFill classFill p (fun _ => normClassParam_fill p) (fun _ => normClassParam_fill p)

theorem normFuncParam_idem (p : Param) : normFuncParam (normFuncParam p) = normFuncParam p := by
  rw [normFuncParam_eq]
  exact fillWith_idem _ _ p (fun _ => fillWith_some _ _ _ vNoneStr rfl) (fun _ => fillWith_some _ _ _ vNoneStr rfl)

theorem normArgparseParam_fill (t : Str) (p : Param) (ht : p.typ = some t) :
    normArgparseParam (argFill t p) = argFill t p := by
  rw [normArgparseParam_eq (argFill t p) t ((argFill_typ t p).trans ht),
    fillWith_some (argFill t) (argFill t) (argFill t p) _ (by rw [argFill_eq]), argFill_idem]
  exact ite_self _

theorem normArgparseParam_idem (p : Param) :
    normArgparseParam (normArgparseParam p) = normArgparseParam p := by
  cases ht : p.typ with
  | none =>
    have : normArgparseParam p = p := by unfold normArgparseParam; rw [ht]
    rw [this, this]
  | some t =>
    have h := normArgparseParam_fill t p ht
    rw [normArgparseParam_eq (argFill t p) t ((argFill_typ t p).trans ht)] at h
    rw [normArgparseParam_eq (normArgparseParam p) t ((pres_argparse p).2.1.trans ht), normArgparseParam_eq p t ht]
    exact fillWith_idem (argFill t) (argFill t) p (fun _ => h) (fun _ => h)

theorem normDocEntry_idem (st : DocStyle) (n : Str) (p : Param) :
    normDocEntry st n (normDocEntry st n p) = normDocEntry st n p := by
  rw [normDocEntry_eq]
  refine fillWith_idem _ _ p (fun _ => ?_) (fun hd => ?_)
  · rw [fillWith_some _ _ _ _ rfl]
    cases kwargsName n <;> cases st <;> rfl
  · cases hk : kwargsName n
    · simp only [Bool.false_eq_true, if_false, fillWith, hd]
    · exact fillWith_some _ _ _ vNoneStr rfl

theorem entryFn_idem (k : Kind) (n : Str) (p : Param) : entryFn k n (entryFn k n p) = entryFn k n p := by
  cases k
  · exact normClassParam_idem p
  · exact normFuncParam_idem p
  · exact normArgparseParam_idem p
  · exact normDocEntry_idem _ n p

theorem retFn_idem (k : Kind) (r : Option Param) : retFn k (retFn k r) = retFn k r := by
  cases k with
  | cls => cases r <;> simp [retFn, normClassParam_idem]
  | func => rfl
  | argparse => simp [retFn, Option.filter_filter]
  | doc st => cases r <;> simp [retFn, normDocEntry_idem]

/-- **C08 in the model, every kind**: a second conversion through the same kind changes nothing -/
theorem norm_idem (k : Kind) (ir : IR) : norm k (norm k ir) = norm k ir := by
  rw [norm_eq k ir, norm_eq]
  simp only [List.map_map, retFn_idem]
  congr 1
  exact List.map_congr_left fun kp _ => by simp [entryFn_idem]

theorem norm_cls_idem (ir : IR) : norm .cls (norm .cls ir) = norm .cls ir := norm_idem .cls ir

theorem norm_func_idem (i : Bool) (ir : IR) : norm (.func i) (norm (.func i) ir) = norm (.func i) ir :=
  norm_idem (.func i) ir

theorem norm_argparse_idem (ir : IR) : norm .argparse (norm .argparse ir) = norm .argparse ir :=
  norm_idem .argparse ir

theorem norm_doc_idem (st : DocStyle) (ir : IR) : norm (.doc st) (norm (.doc st) ir) = norm (.doc st) ir :=
  norm_idem (.doc st) ir

/-- **C08, any number of passes**: the chain `k, k, …, k` (n+1 times), when it stays inside the kind's domain, ends
    where the first conversion ended -/
theorem chain_replicate_idem (k : Kind) : ∀ (n : Nat) (ir out : IR),
    chain (List.replicate (n + 1) k) ir = some out → out = norm k ir
  | 0, ir, out, h => chain_eq_fold [k] ir out h
  | n + 1, ir, out, h => by
    rw [chain_replicate_idem k n (norm k ir) out (chain_cons h).2, norm_idem]

def single (n : Str) (p : Param) : IR := { doc := [], params := [(n, p)], returns := none }

theorem norm_single (k : Kind) (n : Str) (p : Param) : norm k (single n p) = single n (entryFn k n p) := by
  rw [norm_eq]; cases k <;> rfl

theorem noUndefaulted_single (n : Str) (p : Param) : noUndefaultedAfterDefaulted [(n, p)] false = true := by
  cases h : p.default.isSome <;> simp [noUndefaultedAfterDefaulted, h]

/-- an entry of a description inside a kind's domain is, taken alone, inside that domain -/
theorem dom_single (k : Kind) (ir : IR) (n : Str) (p : Param) (h : dom k ir = true) (hm : (n, p) ∈ ir.params) :
    dom k (single n p) = true := by
  cases k with
  | doc st =>
    simp only [dom, Bool.and_eq_true, List.all_eq_true] at h
    have := h.1.1 (n, p) hm
    cases st <;> simp [dom, single, this, noUndefaulted_single]
  | _ =>
    simp only [dom, Bool.and_eq_true, List.all_eq_true] at h
    have := h.1 (n, p) hm
    simp [dom, single, this]

/-- **entry-wise chains**: when a whole description goes through a chain of kinds inside their domains, every
    one of its entries, taken alone, goes through the same chain inside the domains, and comes out as the entry the
    whole result has under that name -/
theorem chain_single : ∀ (ks : List Kind) (ir out : IR), chain ks ir = some out →
    ∀ n p, (n, p) ∈ ir.params → ∃ p', chain ks (single n p) = some (single n p') ∧ (n, p') ∈ out.params
  | [], ir, out, h, n, p, hm => by
    simp only [chain, Option.some.injEq] at h
    subst h
    exact ⟨p, rfl, hm⟩
  | k :: ks, ir, out, h, n, p, hm => by
    obtain ⟨hd, h⟩ := chain_cons h
    have hm' : (n, entryFn k n p) ∈ (norm k ir).params := by
      rw [norm_params]
      exact List.mem_map.mpr ⟨(n, p), hm, rfl⟩
    obtain ⟨p', hc, ho⟩ := chain_single ks (norm k ir) out h n (entryFn k n p) hm'
    refine ⟨p', ?_, ho⟩
    simp only [chain, dom_single k ir n p hd hm, if_true, norm_single]
    exact hc

end Kinds
end Py
