import DT.Rest
/-! Lookup and key list of the ordered dictionary (`ODict`, DT/Rest.lean) under the two ways the model changes one:
    a map over the values that keeps every key (`d.map fun kv => (kv.1, g kv.1 kv.2)`; `ODict.set` on a present key,
    `updKey`, `mergeAttr`, `Kinds.mapParams` are of this form, and so is `Py.mapParams` when its function succeeds on
    every value: `mapParams_ok`) and an append of a new key at the end. The key list is written
    `d.map (·.1)`; `Py.keys`, `Py.okeys` and `Py.ClassKind.keys` are names for it and unfold to it by `rfl`. -/
namespace Py
namespace ODict
variable {α β : Type}

theorem get?_cons (kv : Str × α) (r : ODict α) (k : Str) :
    ODict.get? (kv :: r) k = if kv.1 = k then some kv.2 else ODict.get? r k := by
  unfold ODict.get?
  by_cases h : kv.1 = k
  · simp [h]
  · simp [beq_eq_false_iff_ne.mpr h, h]

theorem get?_append (d e : ODict α) (k : Str) : ODict.get? (d ++ e) k = (ODict.get? d k).or (ODict.get? e k) := by
  rw [ODict.get?, List.find?_append, Option.map_or]; rfl

theorem any_key (d : ODict α) (k : Str) : d.any (·.1 == k) = true ↔ k ∈ d.map (·.1) := by
  rw [← List.contains_iff_mem, ← List.any_beq', List.any_map]; rfl

theorem get?_isSome (d : ODict α) (k : Str) : (ODict.get? d k).isSome ↔ k ∈ d.map (·.1) := by
  rw [ODict.get?, Option.isSome_map, List.find?_isSome, ← List.any_eq_true, any_key]

theorem get?_eq_none (d : ODict α) (k : Str) : ODict.get? d k = none ↔ k ∉ d.map (·.1) := by
  rw [← get?_isSome]; cases ODict.get? d k <;> simp

theorem get?_mapVal (g : Str → α → β) (d : ODict α) (k : Str) :
    ODict.get? (d.map fun kv => (kv.1, g kv.1 kv.2)) k = (ODict.get? d k).map (g k) := by
  induction d with
  | nil => rfl
  | cons kv r ih =>
    rw [List.map_cons, get?_cons, get?_cons, ih]
    by_cases h : kv.1 = k
    · rw [if_pos h, if_pos h, h]; rfl
    · rw [if_neg h, if_neg h]

theorem keys_mapVal (g : Str → α → β) (d : ODict α) : (d.map fun kv => (kv.1, g kv.1 kv.2)).map (·.1) = d.map (·.1) := by
  rw [List.map_map]; rfl

theorem set_of_mem (d : ODict α) (k : Str) (v : α) (h : k ∈ d.map (·.1)) :
    d.set k v = d.map fun kv => (kv.1, if kv.1 = k then v else kv.2) := by
  unfold ODict.set
  rw [if_pos ((any_key d k).mpr h)]
  refine List.map_congr_left fun kv _ => ?_
  by_cases e : kv.1 = k <;> simp [e]

theorem set_of_not_mem (d : ODict α) (k : Str) (v : α) (h : k ∉ d.map (·.1)) : d.set k v = d ++ [(k, v)] := by
  unfold ODict.set
  rw [if_neg (mt (any_key d k).mp h)]

theorem keys_set (d : ODict α) (k : Str) (v : α) :
    (d.set k v).map (·.1) = if k ∈ d.map (·.1) then d.map (·.1) else d.map (·.1) ++ [k] := by
  split
  · rw [set_of_mem d k v ‹_›, keys_mapVal fun k' x => if k' = k then v else x]
  · rw [set_of_not_mem d k v ‹_›, List.map_append]; rfl

theorem get?_set (d : ODict α) (a : Str) (v : α) (k : Str) :
    ODict.get? (d.set a v) k = if k = a then some v else ODict.get? d k := by
  by_cases h : a ∈ d.map (·.1)
  · rw [set_of_mem d a v h, get?_mapVal fun k' x => if k' = a then v else x]
    split
    · obtain ⟨x, hx⟩ := Option.isSome_iff_exists.mp ((get?_isSome d k).mpr (‹k = a› ▸ h))
      simp [hx]
    · cases ODict.get? d k <;> rfl
  · rw [set_of_not_mem d a v h, get?_append, get?_cons]
    by_cases e : k = a
    · subst e; simp [(get?_eq_none d k).mpr h]
    · have : ¬ a = k := fun e' => e e'.symm
      simp [e, this, ODict.get?]

/-- setting keys that are new and pairwise different, one after the other, appends them -/
theorem foldl_set_fresh : ∀ (l d : ODict α), ((d ++ l).map (·.1)).Nodup →
    l.foldl (fun d kv => d.set kv.1 kv.2) d = d ++ l
  | [], d, _ => (List.append_nil d).symm
  | kv :: l, d, h => by
    have hf : kv.1 ∉ d.map (·.1) := fun hm =>
      (List.nodup_append.mp (List.map_append ▸ h)).2.2 _ hm _ (List.mem_map_of_mem List.mem_cons_self) rfl
    rw [List.foldl_cons, set_of_not_mem d kv.1 kv.2 hf, foldl_set_fresh l _ (by rwa [List.append_cons] at h),
      ← List.append_cons]

end ODict

/-- `mapParams` with a function that succeeds on every value is a map over the values -/
theorem mapParams_ok (f : Param → Res Param) (g : Param → Param) :
    ∀ (ps : ODict Param), (∀ np ∈ ps, f np.2 = .ok (g np.2)) → mapParams f ps = .ok (ps.map fun np => (np.1, g np.2))
  | [], _ => rfl
  | (k, p) :: rest, h => by
    rw [mapParams, h (k, p) List.mem_cons_self, Res.bind, mapParams_ok f g rest fun np hnp => h np (List.mem_cons_of_mem _ hnp)]
    rfl

end Py
