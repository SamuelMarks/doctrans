import DT.Find
/-! Soundness of `find_in_ast`: a returned node carries the searched location, or is named by a segment of it. -/
namespace PyAst

/-- `findTotal` compares names and locations with `==` -/
instance : LawfulBEq Atom where
  eq_of_beq := by
    intro a b h
    cases a <;> cases b <;> simp [BEq.beq, instBEqAtom.beq] at h <;> simp [h]
  rfl := by intro a; cases a <;> simp [BEq.beq, instBEqAtom.beq]

/-- the node is "named" `q`: a definition called `q`, an argument `q`, or an annotated assignment to `q` -/
def NamedBy (n : Node) (q : Atom) : Prop :=
  (n.hasName = true ∧ n.name = q) ∨ n.atomField "arg" = some q ∨
  ((n.nodeField "target").bind (·.atomField "id")) = some q

/-- what a successful lookup may return -/
def Sound (search : List Atom) : Found → Prop
  | .node n => n.loc = some search ∨ ∃ q ∈ search, NamedBy n q
  | _ => True

theorem setDflt_atomField (a : Node) (d : Item) (k : String) : (a.setDflt d).atomField k = a.atomField k := by
  cases a; rfl

theorem Sound.ite {s : List Atom} {c : Prop} [Decidable c] {a b : Found} (ha : c → Sound s a) (hb : Sound s b) :
    Sound s (if c then a else b) := by
  split
  · exact ha ‹_›
  · exact hb

theorem Sound.named {s : List Atom} {n : Node} {q : Atom} (hq : q ∈ s) (h : NamedBy n q) : Sound s (.node n) :=
  .inr ⟨q, hq, h⟩

theorem sound_fuel (search : List Atom) (fuel : Nat) :
    (∀ (childNode : Node) (cursor : Sum (List Item) Node) (cs : List Atom), (∀ q ∈ cs, q ∈ search) →
      Sound search (whileT search fuel childNode cursor cs)) ∧
    (∀ (items : List Item) (childNode : Node) (cursor : Sum (List Item) Node) (query : Atom) (cs : List Atom),
      query ∈ search → (∀ q ∈ cs, q ∈ search) → Sound search (forT search fuel items childNode cursor query cs)) := by
  induction fuel with
  | zero => exact ⟨fun _ _ _ _ => by unfold whileT; trivial, fun _ _ _ _ _ _ _ => by unfold forT; trivial⟩
  | succ fuel ih =>
    obtain ⟨ihW, ihF⟩ := ih
    refine ⟨fun childNode cursor cs hcs => ?_, fun items childNode cursor query cs hq hcs => ?_⟩
    · unfold whileT
      cases cs with
      | nil => trivial
      | cons query cs =>
        have hq : query ∈ search := hcs query (by simp)
        refine Sound.ite (fun hc => Sound.named hq (.inl ?_)) ?_
        · simp only [Bool.and_eq_true, beq_iff_eq] at hc
          exact ⟨hc.1.2, hc.2⟩
        · cases cursor with
          | inr _ => trivial
          | inl items => exact ihF items childNode (.inl items) query cs hq fun q h => hcs q (by simp [h])
    · unfold forT
      rcases items with _ | ⟨ch | _, rest⟩
      · exact ihW childNode cursor cs hcs
      case cons.atom => trivial
      refine Sound.ite (fun hloc => .inl (by simpa using hloc)) (Sound.ite (fun _ => ?_) (Sound.ite (fun hann => ?_) (Sound.ite (fun _ => ?_) ?_)))
      · -- FunctionDef: the segment `qc.1` looked up among the arguments is the next one if there is one, else `query`
        extract_lets qc args defaults
        have hqc : qc.1 ∈ search ∧ ∀ x ∈ qc.2, x ∈ search := by
          cases cs with
          | nil => exact ⟨hq, hcs⟩
          | cons q cs' => exact ⟨hcs q List.mem_cons_self, fun x hx => hcs x (List.mem_cons_of_mem q hx)⟩
        split
        · rename_i a i hfind
          refine Sound.ite (fun _ => Sound.named hqc.1 (.inr (.inl ?_))) (ihF _ _ _ _ _ hqc.1 hqc.2)
          have harg : a.atomField "arg" = some qc.1 := by simpa using List.find?_some hfind
          split
          · split <;> simp only [setDflt_atomField, harg]
          · exact harg
        · exact ihF _ _ _ _ _ hqc.1 hqc.2
      · simp only [Bool.and_eq_true, beq_iff_eq] at hann
        exact Sound.named hq (.inr (.inr hann.2))
      · cases hb : bodyOf ch with
        | none => trivial
        | some b => exact ihW ch (.inl b) cs hcs
      · exact ihF rest ch cursor query cs hq hcs

theorem whileT_sound (search : List Atom) : ∀ (fuel : Nat) (childNode : Node) (cursor : Sum (List Item) Node)
    (cs : List Atom), (∀ q ∈ cs, q ∈ search) → Sound search (whileT search fuel childNode cursor cs) :=
  fun fuel => (sound_fuel search fuel).1

theorem forT_sound (search : List Atom) : ∀ (fuel : Nat) (items : List Item) (childNode : Node)
    (cursor : Sum (List Item) Node) (query : Atom) (cs : List Atom),
    query ∈ search → (∀ q ∈ cs, q ∈ search) → Sound search (forT search fuel items childNode cursor query cs) :=
  fun fuel => (sound_fuel search fuel).2

/-- what the top-level call may return -/
def SoundTop (search : List Atom) : Found → Prop
  | .node n => search = [] ∨ n.loc = some search ∨ ∃ q ∈ search, NamedBy n q
  | _ => True

theorem Sound.toTop {search : List Atom} : ∀ {r : Found}, Sound search r → SoundTop search r
  | .node _, h => Or.inr h
  | .none, _ => trivial
  | .raises _, _ => trivial

/-- **whatever `find_in_ast` returns carries the searched location or is named by one of its segments** (an empty
    search returns the root itself, whatever it carries) -/
theorem find_sound (fuel : Nat) (search : List Atom) (node : Node) : SoundTop search (findTotal fuel search node) := by
  unfold findTotal
  split
  · next h =>
    simp only [Bool.or_eq_true, List.isEmpty_iff, beq_iff_eq] at h
    exact h.imp_right .inl
  · cases hb : bodyOf node with
    | none => trivial
    | some body0 => exact (whileT_sound search fuel node (.inl body0) search (fun q h => h)).toTop

end PyAst
