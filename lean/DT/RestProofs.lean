import DT.StrLemmas
/-! Impl = Spec for the ReST scanner: on a text `pre ++ t₁ ++ b₁ ++ … ++ tₙ ++ bₙ` whose pieces contain no
    token, `_scan_phase_rest` returns `(False, pre), (True, t₁ ++ b₁), …`. Generic in the token list up to `run_segment`
    (`scanFinish` knows the seven ReST tokens).
    The scanner cuts when a token is a suffix of the stack. A token is `':' :: r` with `r` colon-free, so a token that
    is a suffix of a text is that text from its last ':' on (`TokOK.eq_of_suffix`): while a token is being read the
    candidate is a proper prefix of it, behind a token in clean text it would have that token as a proper prefix. -/
namespace Py

theorem filter_unique {β} [BEq β] [LawfulBEq β] {p : β → Bool} {t : β} (ht : p t = true) {l : List β}
    (hnd : l.Nodup) (hm : t ∈ l) (hp : ∀ x ∈ l, p x = true → x = t) : l.filter p = [t] := by
  rw [List.filter_congr (q := (· == t)) fun x hx => ?_, List.filter_beq, hnd.count, if_pos hm]
  · rfl
  · exact Bool.eq_iff_iff.mpr ⟨fun h => beq_iff_eq.mpr (hp x hx h), fun h => beq_iff_eq.mp h ▸ ht⟩

theorem matchesTok_iff (s tok : Str) : matchesTok s tok = true ↔ tok <:+ s := by
  rw [matchesTok, beq_iff_eq, ← List.reverse_prefix, List.prefix_iff_eq_take, List.length_reverse, eq_comm]

structure TokOK (toks : List Str) : Prop where
  shape : ∀ t ∈ toks, ∃ r, t = ':' :: r ∧ ':' ∉ r ∧ r ≠ []
  prefixFree : ∀ t ∈ toks, ∀ u ∈ toks, t <+: u → t = u
  nodup : toks.Nodup

theorem restTokens_ok : TokOK restTokens := by
  refine ⟨fun t ht => ?_, by decide, by decide⟩
  obtain ⟨h1, h2, h3⟩ := (by decide : ∀ t ∈ restTokens, t.head? = some ':' ∧ ':' ∉ t.tail ∧ t.tail ≠ []) t ht
  obtain ⟨r, rfl⟩ := List.head?_eq_some_iff.mp h1
  exact ⟨r, rfl, h2, h3⟩

def Clean (toks : List Str) (b : Str) : Prop := ∀ t ∈ toks, ¬ t <:+: b

theorem Clean.prefix {toks : List Str} {b q : Str} (h : Clean toks b) (hq : q <+: b) : Clean toks q :=
  fun t ht hin => h t ht (hin.trans hq.isInfix)

theorem suffix_of_clean {toks : List Str} {u b : Str} (hu : u ∈ toks) (hb : Clean toks b) : ¬ u <:+ b :=
  fun h => hb u hu h.isInfix

theorem TokOK.eq_of_suffix {toks : List Str} (ok : TokOK toks) {u x y : Str} (hu : u ∈ toks) (hy : ':' ∉ y)
    (h : u <:+ x ++ ':' :: y) : u = ':' :: y := by
  obtain ⟨r, rfl, hr, _⟩ := ok.shape u hu
  rcases List.suffix_or_suffix_of_suffix h (List.suffix_append x _) with h | h
  · exact (List.suffix_cons_iff.mp h).resolve_right fun h' => hy (h'.subset (by simp))
  · exact ((List.suffix_cons_iff.mp h).resolve_right fun h' => hr (h'.subset (by simp))).symm

theorem TokOK.suffix_unique {toks : List Str} (ok : TokOK toks) {u t x : Str} (hu : u ∈ toks) (ht : t ∈ toks)
    (h1 : u <:+ x) (h2 : t <:+ x) : u = t := by
  obtain ⟨r, rfl, hr, _⟩ := ok.shape t ht
  obtain ⟨z, rfl⟩ := h2
  exact ok.eq_of_suffix hu hr h1

theorem TokOK.prefix_unique {toks : List Str} (ok : TokOK toks) {u t x : Str} (hu : u ∈ toks) (ht : t ∈ toks)
    (h1 : u <+: x) (h2 : t <+: x) : u = t :=
  (List.prefix_or_prefix_of_prefix h1 h2).elim (ok.prefixFree u hu t ht) fun h => (ok.prefixFree t ht u hu h).symm

/-- `p` is what has been read of the token `t`: no token is complete before `t` is (it would be `p`) -/
theorem TokOK.suffix_in_token {toks : List Str} (ok : TokOK toks) {u t p s : Str} (hu : u ∈ toks) (ht : t ∈ toks)
    (hp : p <+: t) (hne : p ≠ []) (h : u <:+ s ++ p) : p = t := by
  obtain ⟨r, rfl, hr, _⟩ := ok.shape t ht
  obtain ⟨c, p', rfl⟩ := List.exists_cons_of_ne_nil hne
  obtain ⟨rfl, hp'⟩ := List.cons_prefix_cons.mp hp
  have e := ok.eq_of_suffix hu (fun m => hr (hp'.subset m)) h
  exact ok.prefixFree _ (e ▸ hu) _ ht hp

/-- behind a token `t`, in clean text `b`, no token is complete: it would not lie in `b`, so it would start at the
    colon of `t` and have `t` as a proper prefix -/
theorem TokOK.suffix_in_body {toks : List Str} (ok : TokOK toks) {t u b : Str}
    (ht : t ∈ toks) (hu : u ∈ toks) (hb : Clean toks b) (h : u <:+ t ++ b) : b = [] := by
  rcases List.suffix_or_suffix_of_suffix h (List.suffix_append t b) with h1 | h1
  · exact absurd h1 (suffix_of_clean hu hb)
  · obtain ⟨r, rfl, hr, _⟩ := ok.shape t ht
    obtain ⟨ru, rfl, hru, _⟩ := ok.shape u hu
    rcases List.suffix_cons_iff.mp h1 with e | h2
    · exact absurd (e ▸ List.suffix_refl _) (suffix_of_clean hu hb)
    · have e := ok.eq_of_suffix (x := []) (y := r ++ b) hu
        (List.not_mem_append hr fun m => hru (h2.subset m)) h
      have := ok.prefixFree _ ht _ hu (e ▸ List.prefix_append _ b)
      rw [← this] at e
      exact List.self_eq_append_right.mp e

theorem scanStep_quiet (toks : List Str) (sc : List (Bool × Str)) (s : Str) (c : Char)
    (h : ∀ u ∈ toks, ¬ u <:+ s ++ [c]) :
    scanStepG toks ⟨sc, s⟩ c = ⟨sc, s ++ [c]⟩ := by
  rw [scanStepG, ← List.foldl_filter, List.filter_eq_nil_iff.mpr fun u hu hm => h u hu ((matchesTok_iff _ _).mp hm)]
  rfl

theorem cutAt_token (sc : List (Bool × Str)) (s t : Str) :
    cutAt ⟨sc, s ++ t⟩ t = ⟨sc ++ [(!sc.isEmpty, s)], t⟩ := by
  unfold cutAt
  simp only [List.length_append, Nat.add_sub_cancel, List.take_left', List.drop_left',
    List.take_length]

theorem scanStep_cut {toks : List Str} (ok : TokOK toks) (sc : List (Bool × Str)) (s p : Str) (c : Char)
    (ht : p ++ [c] ∈ toks) : scanStepG toks ⟨sc, s ++ p⟩ c = ⟨sc ++ [(!sc.isEmpty, s)], p ++ [c]⟩ := by
  have hs : p ++ [c] <:+ s ++ (p ++ [c]) := List.suffix_append s _
  rw [scanStepG, ← List.foldl_filter, List.append_assoc,
    filter_unique ((matchesTok_iff _ _).mpr hs) ok.nodup ht fun u hu hm => ok.suffix_unique hu ht ((matchesTok_iff _ _).mp hm) hs]
  exact cutAt_token sc s (p ++ [c])

theorem run_quiet (toks : List Str) (sc : List (Bool × Str)) (w s : Str)
    (h : ∀ p, p <+: w → p ≠ [] → ∀ u ∈ toks, ¬ u <:+ s ++ p) :
    w.foldl (scanStepG toks) ⟨sc, s⟩ = ⟨sc, s ++ w⟩ := by
  induction w generalizing s with
  | nil => simp
  | cons c w ih =>
    rw [List.foldl_cons, scanStep_quiet toks sc s c (h [c] (by simp) (by simp)),
      ih (s ++ [c]) fun p hp _ u hu => by
        rw [List.append_assoc]; exact h (c :: p) (List.cons_prefix_cons.mpr ⟨rfl, hp⟩) (by simp) u hu,
      List.append_assoc]
    rfl

/-- stacks that can occur between tokens: the text before the first token, or `token ++ clean text` -/
inductive StackOK (toks : List Str) : Str → Prop where
  | pre (s : Str) (h : Clean toks s) : StackOK toks s
  | seg (t b : Str) (ht : t ∈ toks) (hb : Clean toks b) : StackOK toks (t ++ b)

theorem run_segment {toks : List Str} (ok : TokOK toks) (sc : List (Bool × Str)) {s t b : Str}
    (ht : t ∈ toks) (hb : Clean toks b) :
    (t ++ b).foldl (scanStepG toks) ⟨sc, s⟩ = ⟨sc ++ [(!sc.isEmpty, s)], t ++ b⟩ := by
  obtain ⟨p, c, rfl⟩ : ∃ p c, t = p ++ [c] := by
    obtain ⟨r, rfl, _⟩ := ok.shape t ht
    exact ⟨_, _, (List.dropLast_concat_getLast (List.cons_ne_nil _ _)).symm⟩
  rw [List.foldl_append, List.foldl_append,
    run_quiet toks sc p s fun q hq hne u hu h => by
      have hl := hq.length_le
      rw [ok.suffix_in_token hu ht (hq.trans (List.prefix_append p [c])) hne h, List.length_append] at hl
      exact Nat.not_succ_le_self _ hl,
    List.foldl_cons, List.foldl_nil, scanStep_cut ok sc s p c ht,
    run_quiet toks _ b (p ++ [c]) fun q hq hne u hu h => hne (ok.suffix_in_body ht hu (hb.prefix hq) h)]

def segText (segs : List (Str × Str)) : Str := (segs.map fun tb => tb.1 ++ tb.2).flatten

def SegsOK (toks : List Str) (segs : List (Str × Str)) : Prop := ∀ tb ∈ segs, tb.1 ∈ toks ∧ Clean toks tb.2

theorem segText_cons (tb : Str × Str) (segs : List (Str × Str)) : segText (tb :: segs) = tb.1 ++ tb.2 ++ segText segs :=
  rfl

theorem segText_append (a b : List (Str × Str)) : segText (a ++ b) = segText a ++ segText b := by
  simp [segText]

theorem any_startsWith_clean {s : Str} (h : Clean restTokens s) :
    restTokens.any (fun u => startsWith s u) = false := by
  rw [List.any_eq_false]
  exact fun u hu hst => h u hu (List.isPrefixOf_iff_prefix.mp hst).isInfix

theorem scanFinish_token (sc : List (Bool × Str)) {t b : Str} (ht : t ∈ restTokens) :
    scanFinish ⟨sc, t ++ b⟩ = sc ++ [(true, t ++ b)] := by
  obtain ⟨r, rfl, _⟩ := restTokens_ok.shape t ht
  have : restTokens.any (fun u => startsWith (':' :: r ++ b) u) = true :=
    List.any_eq_true.mpr ⟨_, ht, startsWith_append_self _ b⟩
  rw [scanFinish, if_neg (by simp), this]
  simp only [Bool.or_true]

theorem finish_segments (segs : List (Str × Str)) (hs : SegsOK restTokens segs) (sc : List (Bool × Str)) (hsc : sc ≠ [])
    {t b : Str} (ht : t ∈ restTokens) :
    scanFinish ((segText segs).foldl (scanStepG restTokens) ⟨sc, t ++ b⟩) =
      sc ++ (true, t ++ b) :: segs.map fun tb => (true, tb.1 ++ tb.2) := by
  induction segs generalizing sc t b with
  | nil => exact scanFinish_token sc ht
  | cons tb rest ih =>
    rw [segText_cons, List.foldl_append, run_segment restTokens_ok sc (hs tb (by simp)).1 (hs tb (by simp)).2,
      ih (fun x hx => hs x (by simp [hx])) _ (by simp) (hs tb (by simp)).1, List.isEmpty_eq_false_iff.mpr hsc]
    simp

/-- C01, scan phase of the ReST parser: Impl = Spec for `_scan_phase_rest` on every text whose pieces contain no token -/
theorem scanRest_spec (pre : Str) (segs : List (Str × Str))
    (hpre : Clean restTokens pre) (hs : SegsOK restTokens segs) :
    scanRest (pre ++ segText segs) =
      match segs with
      | [] => if pre.isEmpty then [] else [(false, pre)]
      | _ :: _ => (false, pre) :: segs.map (fun tb => (true, tb.1 ++ tb.2)) := by
  rw [scanRest, List.foldl_append, show ({} : ScanSt) = ⟨[], []⟩ from rfl, scanStep,
    run_quiet restTokens [] pre [] fun p hp _ u hu h => suffix_of_clean hu (hpre.prefix hp) h, List.nil_append]
  cases segs with
  | nil =>
    rw [segText, List.map_nil, List.flatten_nil, List.foldl_nil, scanFinish, any_startsWith_clean hpre]
    rfl
  | cons tb rest =>
    rw [segText_cons, List.foldl_append, run_segment restTokens_ok [] (hs tb (by simp)).1 (hs tb (by simp)).2]
    exact finish_segments rest (fun x hx => hs x (by simp [hx])) _ (by simp) (hs tb (by simp)).1

theorem scanRest_spec_cons (pre : Str) (tb : Str × Str) (rest : List (Str × Str))
    (hpre : Clean restTokens pre) (hs : SegsOK restTokens (tb :: rest)) :
    scanRest (pre ++ segText (tb :: rest)) = (false, pre) :: (tb :: rest).map (fun tb => (true, tb.1 ++ tb.2)) :=
  scanRest_spec pre (tb :: rest) hpre hs

#print axioms scanRest_spec

end Py
