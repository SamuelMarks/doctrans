import DT.Defaults
/-! L2/L4/L5 (ReST only): IR, `emit.docstring(rest)`, `parse_docstring` for ReST — statement-by-statement Impl. -/
namespace Py

/-! ### a few more `str` primitives with Python index semantics -/

def pyNormIdx (len : Nat) (i : Int) : Nat :=
  if i < 0 then (if i + len < 0 then 0 else (i + len).toNat) else (if i.toNat > len then len else i.toNat)

/-- `s[a:b]` -/
def pySlice (s : Str) (a b : Int) : Str :=
  let a' := pyNormIdx s.length a
  let b' := pyNormIdx s.length b
  if b' ≤ a' then [] else (s.drop a').take (b' - a')
/-- `s[a:]` -/
def pyFrom (s : Str) (a : Int) : Str := s.drop (pyNormIdx s.length a)

def findFrom (sub : Str) : Str → Nat → Option Nat
  | [], i => if sub.isEmpty then some i else none
  | c :: t, i => if sub.isPrefixOf (c :: t) then some i else findFrom sub t (i + 1)

/-- `s.find(sub, start)`; -1 if absent -/
def pyFind (s sub : Str) (start : Int) : Int :=
  let st := pyNormIdx s.length start
  match findFrom sub (s.drop st) st with
  | some i => i
  | none => -1

def splitOnChar (sep : Char) : Str → List Str
  | [] => [[]]
  | c :: t =>
    match splitOnChar sep t with
    | [] => [[c]]        -- unreachable
    | h :: r => if c == sep then [] :: h :: r else (c :: h) :: r

def joinWith (sep : Str) : List Str → Str
  | [] => []
  | [x] => x
  | x :: xs => x ++ sep ++ joinWith sep xs

/-- `textwrap.indent(s, prefix)`: prefix every line that is not whitespace-only (lines split on '\n') -/
def indentLines (pre : Str) (s : Str) : Str :=
  joinWith ['\n'] ((splitOnChar '\n' s).map fun l => if (strip pyWs l).isEmpty then l else pre ++ l)

def tab : Str := [' ', ' ', ' ', ' ']

/-- `indent_all_but_first(s)` with indent_level=1, wipe_indents=False -/
def indentAllButFirst (s : Str) : Str :=
  match splitOnChar '\n' (indentLines tab s) with
  | [] => []
  | l0 :: rest => joinWith ['\n'] (stripLeft pyWs l0 :: rest)

/-- `s.replace(old, new)` for non-empty `old` -/
def replaceAll (old new : Str) : Str → Str
  | [] => []
  | c :: t =>
    if old.isPrefixOf (c :: t) && !old.isEmpty then new ++ replaceAll old new ((c :: t).drop old.length)
    else c :: replaceAll old new t
termination_by s => s.length
decreasing_by
  all_goals simp_wf
  · have : old.length ≥ 1 := by
      cases old with
      | nil => simp_all
      | cons _ _ => simp
    omega

def unquote (s : Str) : Str :=
  if s.length > 1 && ((startsWith s ['"'] && endsWith s ['"']) || (startsWith s ['\''] && endsWith s ['\''])) then
    (s.drop 1).take (s.length - 2)
  else s

def unquoteVal : Val → Val
  | .str s => .str (unquote s)
  | v => v

def codeQuoted (s : Str) : Bool :=
  s.length > 6 && startsWith s ['`', '`', '`'] && endsWith s ['`', '`', '`']

/-! ### ordered dict -/
abbrev ODict (α : Type) := List (Str × α)
def ODict.set {α} (d : ODict α) (k : Str) (v : α) : ODict α :=
  if d.any (·.1 == k) then d.map (fun kv => if kv.1 == k then (k, v) else kv) else d ++ [(k, v)]
def ODict.get? {α} (d : ODict α) (k : Str) : Option α := (d.find? (·.1 == k)).map (·.2)

structure IR where
  doc : Str := []
  params : ODict Param := []
  returns : Option Param := none      -- `returns: {return_type: p}`; `none` = None
deriving Repr, BEq, DecidableEq, Inhabited

/-! ### emit -/

def retName : Str := ['r', 'e', 't', 'u', 'r', 'n', '_', 't', 'y', 'p', 'e']
def kReturns : Str := ['r', 'e', 't', 'u', 'r', 'n', 's']
def kRtype : Str := ['r', 't', 'y', 'p', 'e']
def kParam : Str := ['p', 'a', 'r', 'a', 'm', ' ']
def kType : Str := ['t', 'y', 'p', 'e', ' ']
theorem emit_consts_eq : retName = "return_type".toList ∧ kReturns = "returns".toList ∧ kRtype = "rtype".toList
    ∧ kParam = "param ".toList ∧ kType = "type ".toList :=
  ⟨String.toList_ofList.symm, String.toList_ofList.symm, String.toList_ofList.symm, String.toList_ofList.symm,
    String.toList_ofList.symm⟩

/-- `emit_param_str(param, style="rest", emit_doc, emit_type, word_wrap=False, emit_default_doc)`;
    returns text and the (mutated) param -/
def emitParamStrRest (name : Str) (p : Param) (emitDefaultDoc : Bool) : Res (Str × Param) :=
  let isRet := name == retName
  let key := if isRet then kReturns else kParam ++ name
  let keyTyp := if isRet then kRtype else kType ++ name
  let docPart : Res (Option Str × Param) :=
    match p.doc with
    | some d =>
      if d.isEmpty then .ok (none, p)
      else (setDefaultDoc name p emitDefaultDoc).bind fun p' =>
        match p'.doc with
        | some d' => .ok (some ([':'] ++ key ++ [':', ' '] ++ d'), p')
        | none => .raises "KeyError"
    | none => .ok (none, p)
  docPart.bind fun (dl, p') =>
    let typPart : Option Str :=
      match p'.typ with
      | some t => if t.isEmpty then none else some ([':'] ++ keyTyp ++ [':', ' ', '`', '`', '`'] ++ t ++ ['`', '`', '`'])
      | none => none
    let lines := (dl.toList ++ typPart.toList).map indentAllButFirst
    .ok (joinWith ['\n'] lines, p')

def emitParamsRest : List (Str × Param) → Bool → Res (List Str)
  | [], _ => .ok []
  | (n, p) :: rest, e =>
    (emitParamStrRest n p e).bind fun (s, _) =>
    (emitParamsRest rest e).bind fun ss => .ok (s :: ss)

/-- `emit.docstring(ir, docstring_format="rest", word_wrap=False, emit_default_doc)` -/
def emitDocstringRest (ir : IR) (emitDefaultDoc : Bool) : Res Str :=
  (emitParamsRest ir.params emitDefaultDoc).bind fun ps =>
  let params := joinWith ['\n', '\n'] ps
  let returns : Res Str :=
    match ir.returns with
    | some r => (emitParamStrRest "return_type".toList r emitDefaultDoc).bind fun (s, _) => .ok (['\n'] ++ s)
    | none => .ok []
  returns.bind fun rs =>
  .ok (['\n'] ++ ir.doc ++ ['\n', '\n'] ++ params ++ ['\n'] ++ rs ++ ['\n'])

/-! ### parse -/

def restTokens : List Str :=
  [[':', 'p', 'a', 'r', 'a', 'm'], [':', 'c', 'v', 'a', 'r'], [':', 'i', 'v', 'a', 'r'], [':', 'v', 'a', 'r'],
   [':', 't', 'y', 'p', 'e'], [':', 'r', 'e', 't', 'u', 'r', 'n'], [':', 'r', 't', 'y', 'p', 'e']]
theorem restTokens_eq : restTokens =
    [":param".toList, ":cvar".toList, ":ivar".toList, ":var".toList, ":type".toList, ":return".toList, ":rtype".toList] := by
  iterate 7 rw [String.toList_ofList]
  rfl
def argTokens : List Str := restTokens.take 5
def returnTokens : List Str := restTokens.drop 5

structure ScanSt where
  scanned : List (Bool × Str) := []
  stack : Str := []
deriving DecidableEq, Repr

/-- `tuple(stack_rev[:token_len]) == token` with `token` the reversed token -/
def matchesTok (stack0 tok : Str) : Bool := stack0.reverse.take tok.length == tok.reverse

/-- the body of the `if`: append `(bool(len(scanned)), stack[:-token_len])`, keep the token on the stack -/
def cutAt (acc : ScanSt) (tok : Str) : ScanSt :=
  let text := acc.stack.take (acc.stack.length - tok.length)
  { scanned := acc.scanned ++ [(!acc.scanned.isEmpty, text)], stack := (acc.stack.drop text.length).take tok.length }

/-- one character of `_scan_phase_rest` (note: `stack_rev` is computed once, before the token loop) -/
def scanStepG (toks : List Str) (st : ScanSt) (ch : Char) : ScanSt :=
  toks.foldl (fun acc tok => if matchesTok (st.stack ++ [ch]) tok then cutAt acc tok else acc)
    { st with stack := st.stack ++ [ch] }

def scanStep : ScanSt → Char → ScanSt := scanStepG restTokens

def scanFinish (st : ScanSt) : List (Bool × Str) :=
  if st.stack.isEmpty then st.scanned
  else
    let prevTok := match st.scanned.getLast? with | some (b, _) => b | none => false
    st.scanned ++ [(prevTok || restTokens.any (fun t => startsWith st.stack t), st.stack)]

def scanRest (doc : Str) : List (Bool × Str) := scanFinish (doc.foldl scanStep {})

/-- `interpolate_defaults(param, emit_default_doc)` (require_default = False) -/
def interpolateDefaults (p : Param) (emitDefaultDoc : Bool) : Res Param :=
  match p.doc with
  | some d =>
    (extractDefault d p.typ emitDefaultDoc).bind fun e =>
    .ok { p with doc := some e.doc, default := match e.default with | some v => some (unquoteVal v) | none => p.default }
  | none => .ok p

def typeName : Val → Str
  | .none => "NoneType".toList
  | .bool _ => "bool".toList
  | .int _ _ => "int".toList
  | .float _ => "float".toList
  | .str _ => "str".toList

def isNoneType (v : Val) : Bool :=
  v == .none || v == .str "None".toList || v == .str noneStr

/-- `_infer_default(_param, infer_type)`; precondition: default present -/
def inferDefault (p : Param) (inferType : Bool) : Res Param :=
  match p.default with
  | none => .raises "KeyError"
  | some d0 =>
    let d1 := if isNoneType d0 then Val.str noneStr else d0
    let typ1 := if inferType && p.typ.isNone && !isNoneType d1 then some (typeName d1) else p.typ
    (needsQuoting typ1).bind fun nq =>
    let d2 := match d1 with
      | .str s => Val.str (unquote s)
      | v => if nq then v else v          -- `unquote` of a non-str is the identity
    let typ2 := if typ1.isNone && d2 != Val.str noneStr then some (typeName d2) else typ1
    let isCode := match d2 with | .str s => codeQuoted s | _ => false
    if d2 != Val.str noneStr && isCode && !(typ2.getD []).contains '[' then
      match typ2 with
      | some _ => .ok { p with default := some d2, typ := none }
      | none => .raises "KeyError"
    else .ok { p with default := some d2, typ := typ2 }

/-- what `_set_name_and_type` does to prose when `word_wrap` is on: every line stripped, the lines joined by one
    blank, the result right-stripped -/
def unwrapProse (d : Str) : Str := stripRight pyWs (joinWith [' '] ((splitOnChar '\n' d).map (strip pyWs)))

/-- `_set_name_and_type((name, param), infer_type, word_wrap)` -/
def setNameAndType (name : Option Str) (p : Param) (inferType wordWrap : Bool) : Res (Str × Param) :=
  match name with
  | none => .raises "AttributeError"
  | some name =>
    let kw := endsWith name "kwargs".toList || startsWith name ['*', '*']
    let step1 : Res (Str × Param) :=
      if kw then
        let name' := stripLeft ['*'] name
        let p1 := if (p.typ.getD "dict".toList) == "dict".toList then { p with typ := some "Optional[dict]".toList } else p
        let p2 := if p1.default.isNone then { p1 with default := some (Val.str noneStr) } else p1
        .ok (name', p2)
      else if p.default.isSome then (inferDefault p inferType).bind fun p' => .ok (name, p')
      else .ok (name, p)
    step1.bind fun (name, p) =>
    let googleOpt := ", optional".toList
    let p := match p.typ with
      | some t => if endsWith t googleOpt then { p with typ := some ("Optional[".toList ++ t.take (t.length - googleOpt.length) ++ [']']) } else p
      | none => p
    let p := match p.doc with | some d => if d.isEmpty then { p with doc := none } else p | none => p
    match p.doc with
    | none => .ok (name, p)
    | some d =>
      let d' := if wordWrap then unwrapProse d else stripRight pyWs d
      let p := { p with doc := some d' }
      let p := match p.typ with
        | some t =>
          if (startsWith d' "(Optional)".toList || startsWith d' "Optional".toList) && !startsWith t "Optional[".toList
          then { p with typ := some ("Optional[".toList ++ t ++ [']']) } else p
        | none => p
      .ok (name, p)

/-- merge `{k: v}` into a param (`update_d`) where k ∈ {typ, doc} as computed by `_set_param_values` -/
def setParamValue (p : Param) (line val : Str) (sw : Str) : Param :=
  if startsWith line sw then
    let v := replaceAll ['`', '`', '`'] [] val
    { p with typ := some (if startsWith v ['*', '*'] then "dict".toList else v) }
  else { p with doc := some val }

structure ParseSt where
  doc : Str := []
  params : ODict Param := []
  returns : Option Param := none
  cur : Option (Option Str × Param) := some (none, {})     -- Python `param = [None, {}]`

def parseStepRest (emitDefaultDoc inferType wordWrap : Bool) (st : ParseSt) (item : Bool × Str) : Res ParseSt :=
  let (isTok, line) := item
  if isTok then
    if returnTokens.any (fun t => startsWith line t) then
      let nxt := pyFind line [':'] 1
      let val := strip pyWs (pyFrom line (nxt + 1))
      let base : Param := {}
      let p0 := setParamValue base line val ":rtype".toList
      (interpolateDefaults p0 emitDefaultDoc).bind fun p1 =>
      let old := st.returns.getD {}
      -- dict.update: keys present in p1 overwrite
      let merged : Param := { doc := p1.doc.orElse (fun _ => old.doc), typ := p1.typ.orElse (fun _ => old.typ),
                              default := p1.default.orElse (fun _ => old.default) }
      .ok { st with returns := some merged }
    else
      let fstSpace := pyFind line [' '] 0
      let nxtColon := pyFind line [':'] fstSpace
      let name := pySlice line (fstSpace + 1) nxtColon
      let (curName, curP) := st.cur.getD (none, {})
      let flush := curName.isSome && curName != some name
      let params := if flush then
          match curName with
          | some n => if n.head? != some '*' then st.params.set n curP else st.params
          | none => st.params
        else st.params
      -- `param[0][0]` on an empty name raises IndexError
      if flush && curName == some [] then .raises "IndexError" else
      let curP := if flush then ({} : Param) else curP
      let val := strip pyWs (pyFrom line (nxtColon + 1))
      let p := setParamValue curP line val ":type".toList
      (interpolateDefaults p emitDefaultDoc).bind fun p1 =>
      (setNameAndType (some name) p1 inferType wordWrap).bind fun (n2, p2) =>
      .ok { st with params := params, cur := some (some n2, p2) }
  else if st.doc.isEmpty then .ok { st with doc := strip pyWs line }
  else .ok st

def foldRes {σ α} (f : σ → α → Res σ) : σ → List α → Res σ
  | s, [] => .ok s
  | s, a :: as => (f s a).bind fun s' => foldRes f s' as

def mapParams (f : Param → Res Param) : ODict Param → Res (ODict Param)
  | [] => .ok []
  | (k, p) :: rest => (f p).bind fun p' => (mapParams f rest).bind fun r => .ok ((k, p') :: r)

/-- `parse_docstring(docstring, infer_type=False, word_wrap=True, emit_default_prop=True, emit_default_doc)` when the
    style is ReST -/
def parseDocstringRest (doc : Str) (emitDefaultDoc : Bool) (inferType := false) (wordWrap := true) : Res IR :=
  if doc.isEmpty then .ok {} else
  (foldRes (parseStepRest emitDefaultDoc inferType wordWrap) {} (scanRest doc)).bind fun st =>
  let fin : Res ParseSt :=
    match st.cur with
    | some (some n, p) =>       -- `if param[0] is not None:` (fix D6, b31be7d)
      (interpolateDefaults p emitDefaultDoc).bind fun p1 =>
      (setNameAndType (some n) p1 inferType wordWrap).bind fun (n2, p2) =>
      .ok { st with params := st.params.set n2 p2 }
    | _ => .ok st
  fin.bind fun st =>
  (mapParams (fun p => interpolateDefaults p emitDefaultDoc) st.params).bind fun ps =>
  let rs : Res (Option Param) := match st.returns with
    | some r => (interpolateDefaults r emitDefaultDoc).bind fun r' => .ok (some r')
    | none => .ok none
  rs.bind fun r => .ok { doc := st.doc, params := ps, returns := r }

def isRestStyle (doc : Str) : Bool := restTokens.any (fun t => containsSub doc t)

end Py
