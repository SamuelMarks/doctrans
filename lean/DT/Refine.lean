import DT.ClassAttrTheorems
import DT.FuncAttr
import DT.ArgAttrTheorems
import DT.ODictLemmas
/-! The statement-level models of the three AST kinds, lifted to whole parameter lists, refine the
    interface-level `Kinds.norm`: for ANY number of parameters of the modelled shapes, converting every entry by the
    statement-level round trip gives exactly the parameter list `norm k` describes. (`Kinds.lean` is tied to the code
    by a differential run only; these theorems derive its tables from the transliterated statements.) -/
namespace Py
namespace Refine
open Kinds

/-- **class kind**: `param2ast` -> `parse.class_` -> `_infer_default` over all attributes IS `norm .cls` on the params -/
theorem class_refines (ir : IR) (h : ∀ np ∈ ir.params, ClassAttr.AttrDom np.2) :
    Py.mapParams ClassAttr.attrRT ir.params = .ok (norm .cls ir).params :=
  mapParams_ok ClassAttr.attrRT normClassParam ir.params (fun np hnp => ClassAttr.attrRT_eq_norm np.2 (h np hnp))

/-- **function / method kind**: `emit.function` -> `parse.function` -> `_infer_default` over all parameters IS
    `norm (.func i)` on the params (`funcRT` models the types in the signature; `normFuncParam` does not look at `i`) -/
theorem func_refines (ir : IR) (i : Bool) (h : ∀ np ∈ ir.params, FuncAttr.FuncDom np.2) :
    Py.mapParams FuncAttr.funcRT ir.params = .ok (norm (.func i) ir).params :=
  mapParams_ok FuncAttr.funcRT normFuncParam ir.params (fun np hnp => FuncAttr.funcRT_eq_norm np.2 (h np hnp))

/-- **argparse kind**: all `add_argument` calls with the `require_default` thread ARE `norm .argparse` on the params,
    up to the one reading of an `Optional[...]` option without a value -/
theorem argparse_refines (ir : IR) (edd : Bool) (h : ∀ np ∈ ir.params, ArgAttr.ArgDom np.1 np.2) :
    ∃ qs, ArgAttr.argparseParams edd ir.params false = .ok qs ∧
      qs.map (fun nq => (nq.1, ArgAttr.canonOpt nq.2)) =
        (norm .argparse ir).params.map (fun np => (np.1, ArgAttr.canonOpt np.2)) := by
  obtain ⟨qs, hq, hm⟩ := ArgAttr.argparseParams_refines edd ir.params false h
  exact ⟨qs, hq, by rw [hm, norm_params, List.map_map]; rfl⟩

theorem norm_names (k : Kind) (ir : IR) : (norm k ir).params.map (·.1) = ir.params.map (·.1) :=
  chain_names [k] ir

end Refine
end Py
