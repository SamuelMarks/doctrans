import DT.ClassAttr
/-! Statement-level model of one parameter through the argparse kind:
    `ast_utils.param2argparse_param` (with `_resolve_arg`, `_parse_node_for_arg`, `infer_type_and_default`) turns an
    entry into the keywords of an `argument_parser.add_argument(...)` call, `emitter_utils.parse_out_param`
    (with `_handle_value`, `_handle_keyword`) reads such a call back. Composed (`argRT`) it is what
    `Kinds.normArgparseParam` says at interface level; `ArgAttrTheorems.argRT_eq_norm` proves that on the typed,
    literal-default part of the domain. Tied to the code by the driver operations `param2argparse` and
    `parse_out_param` (the keywords the real emitter produced / what the real parser read from them).

    The walk over the parsed type expression is modelled by shape (scalar, `Optional[scalar]`, `List[scalar]`,
    `Literal['a', 'b', ...]`, a plain or dotted name); any other type is answered `unmodelled`. -/
namespace Py
namespace ArgAttr
open Kinds ClassAttr

/-- the keywords of the emitted `add_argument('--name', ...)` call -/
structure AddArg where
  typ : Option Str := none            -- `type=<Name>`
  choices : Option (List Str) := none -- `choices=(...)`, string members
  action : Option Str := none
  help : Option Str := none
  required : Bool := false            -- `required=True` present
  default : Option Val := none
deriving DecidableEq, Repr

def tComplex : Str := ['c', 'o', 'm', 'p', 'l', 'e', 'x']
def tLoads : Str := ['l', 'o', 'a', 'd', 's']
def tAny : Str := ['A', 'n', 'y']
def sAppend : Str := ['a', 'p', 'p', 'e', 'n', 'd']
def sOptional : Str := ['O', 'p', 't', 'i', 'o', 'n', 'a', 'l']
def sUnion : Str := ['U', 'n', 'i', 'o', 'n']
def sList : Str := ['L', 'i', 's', 't']
def sLiteralName : Str := ['L', 'i', 't', 'e', 'r', 'a', 'l']

/-- `typ in simple_types` for a type given as text -/
def isSimple (t : Str) : Bool := isScalar t

/-- the members of `'a', 'b', ...` (the inside of `Literal[...]`): quoted strings without the quote mark or a
    back-slash inside, separated by a comma and one blank (what `ast.unparse` writes) -/
def litMembers : Str → Nat → Option (List Str)
  | _, 0 => none
  | q :: rest, fuel + 1 =>
    if q == '\'' || q == '"' then
      let body := rest.takeWhile (· != q)
      if body.contains '\\' then none else
      match rest.dropWhile (· != q) with
      | _ :: [] => some [body]
      | _ :: ',' :: ' ' :: r => (litMembers r fuel).map (body :: ·)
      | _ => none
    else none
  | [], _ => none

/-- inside of `Pre[...]` -/
def inside (pre t : Str) : Option Str :=
  if startsWith t (pre ++ ['[']) && endsWith t [']'] then some ((t.drop (pre.length + 1)).take (t.length - pre.length - 2))
  else none

structure Resolved where
  action : Option Str
  choices : Option (List Str)
  required : Bool
  typ : Str
deriving DecidableEq, Repr

/-- `_resolve_arg(action=None, choices=None, (name, _param), required, typ="str")`; `kw` = the name ends with
    "kwargs" -/
def resolveArgK (kw : Bool) (ptyp : Str) (required0 : Bool) : Res Resolved :=
  let finish (reqOverride : Option Bool) (action : Option Str) (choices : Option (List Str)) (required : Bool) (typ : Str) : Res Resolved :=
    -- `if _required is None and (typ or "").lower() in frozenset(("str", "complex", "int", "float", ...))`
    let ro := match reqOverride with
      | some b => some b
      | none => if typ == tStr || typ == tComplex || typ == tInt || typ == tFloat then some true else none
    .ok ⟨action, choices, ro.getD required, typ⟩
  if startsWith ptyp ['<'] then .unmodelled "a type given as the repr of a class"
  else if containsSub ptyp tComplex then .unmodelled "complex"
  else if isSimple ptyp then finish none none none required0 ptyp
  else if ptyp == tDict || kw then finish none none none (!kw) tLoads
  else if ptyp.isEmpty then finish none none none required0 tStr
  else
    -- `for node in walk(ast_parse_fix(typ))`: by shape
    match inside sOptional ptyp with
    | some x => if isSimple x then finish (some false) none none required0 x else .unmodelled "Optional of a non-scalar"
    | none =>
    match inside sList ptyp with
    | some x => if isSimple x then finish none (some sAppend) none required0 x else .unmodelled "List of a non-scalar"
    | none =>
    match inside sLiteralName ptyp with
    | some body =>
      (match litMembers body (body.length + 1) with
       | some ms => finish none none (if ms.length > 1 then some ms else none) required0 tStr
       | none => .unmodelled "Literal with non-string members")
    | none =>
      if ptyp.contains '[' || ptyp.contains '(' || ptyp.contains '\'' || ptyp.contains '"' then .unmodelled "type shape"
      else
        let base := ptyp.takeWhile (· != '.')
        if !typeGrammarOk ptyp then .unmodelled "type outside the grammar"
        else if base == sOptional || base == sList || base == sUnion then .unmodelled "bare Optional/List/Union"
        else finish none none none required0 tStr        -- `typ = FALLBACK_TYP`

def resolveArg (name ptyp : Str) (required0 : Bool) : Res Resolved :=
  resolveArgK (endsWith name ['k', 'w', 'a', 'r', 'g', 's']) ptyp required0

/-- the `default is None` branch of `infer_type_and_default`: the type survives only when it mentions
    `Optional` or is one of Any / pickle.loads / loads -/
def typAfterNone (typ : Str) : Option Str :=
  if containsSub typ sOptional || typ == tAny || typ == tLoads then some typ else none

/-- `infer_type_and_default(action, default, typ, required)` on scalar defaults: (default, typ or None) -/
def inferTypeAndDefault (dv : Val) (typ : Str) : Res (Option Val × Option Str) :=
  match dv with
  | .str s =>
    if codeQuoted s then
      -- `_infer_type_and_default_from_quoted`: "```(None)```" is evaluated to `None`
      if s == noneStr then .ok (none, typAfterNone typ) else .unmodelled "code default"
    else .ok (some dv, some tStr)
  | .none => .ok (none, typAfterNone typ)
  | v => .ok (some v, some (typeName v))

/-- `set_value(choice)` on a string member -/
def cleanChoice (m : Str) : Str := match setValue (.str m) with | .str s => s | _ => m

/-- `_param.get("default") is not None` -/
def required0Of : Option Val → Bool
  | some .none => false
  | some _ => true
  | none => false

/-- `_param.get("default", _default)` (`_default` = what `extract_default` found in the prose) -/
def dvOf : Option Val → Option Val → Val
  | some v, _ => v
  | none, e => e.getD .none

/-- `param2argparse_param((name, param), word_wrap=False, emit_default_doc)` -/
def param2argparse (name : Str) (p : Param) (edd : Bool) : Res AddArg :=
  let required0 := required0Of p.default
  (resolveArg name (p.typ.getD tAny) required0).bind fun r =>
  (extractDefault (p.doc.getD []) none edd).bind fun e =>
  let dv : Val := dvOf p.default e.default
  (inferTypeAndDefault dv r.typ).bind fun dt =>
  let required := if dt.1.isNone && p.default == some (.str noneStr) then false else r.required
  let typ := dt.2.getD r.typ
  let typ : Option Str := if typ == tStr && r.action.isNone then none else some typ
  .ok { typ := typ,
        choices := r.choices.map (·.map cleanChoice),
        action := r.action,
        help := if e.doc.isEmpty then none else some e.doc,
        required := required,
        default := dt.1.map setValue }

def joinSep (sep : Str) : List Str → Str
  | [] => []
  | [x] => x
  | x :: rest => x ++ sep ++ joinSep sep rest

/-- `_handle_keyword(keyword, typ)`: the type text for a `choices=` keyword -/
def handleChoices (ms : List Str) (typ : Str) : Str :=
  if isSimple typ then
    sLiteralName ++ ['['] ++ joinSep [',', ' '] (if typ == tStr then ms.map fun m => ['\''] ++ m ++ ['\''] else ms) ++ [']']
  else sUnion ++ ['['] ++ joinSep [',', ' '] ms ++ [']']

/-- the raw type read from the `type=` keyword (`_handle_value`; `str` when there is none) -/
def typ0Of (t : Option Str) : Str :=
  match t with
  | some t => if t == tLoads then "Optional[dict]".toList else t
  | none => tStr

/-- the `doc` lambda of `parse_out_param`: the help text, with the default sentence appended when asked for -/
def docOf (help : Option Str) (default : Option Val) (edd : Bool) : Res (Option Str) :=
  match help with
  | none => .ok none
  | some h =>
    match default with
    | none => .ok (some h)
    | some d =>
      if !edd || d == .str [] || containsSub h "defaults to".toList || containsSub h "Defaults to".toList then .ok (some h)
      else (fmtVal d).bind fun sv =>
        .ok (some ((if endsWith h ['.'] then h else h ++ ['.']) ++ " Defaults to ".toList ++ sv))

/-- the default of an entry that has none in the call nor in its help text -/
def fillDefault (typ0 : Str) (required requireDefault : Bool) : Option Val :=
  if required then some (if isSimple typ0 then zeroOf typ0 else .str noneStr)
  else if requireDefault || startsWith typ0 sOptional then some (.str noneStr)
  else none

/-- `choices=` -> Literal/Union, `action="append"` -> List[...], not required -> Optional[...] -/
def typStage (choices : Option (List Str)) (action : Option Str) (required : Bool) (typ0 : Str) : Str :=
  let typ := match choices with | some ms => handleChoices ms typ0 | none => typ0
  let typ := if action == some sAppend then sList ++ ['['] ++ typ ++ [']'] else typ
  if !required && !containsSub typ sOptional then sOptional ++ ['['] ++ typ ++ [']'] else typ

/-- `parse_out_param(expr, require_default, emit_default_doc)` -/
def parseOutParam (a : AddArg) (requireDefault edd : Bool) : Res Param :=
  if typ0Of a.typ == tComplex then .unmodelled "complex" else
  (docOf a.help a.default edd).bind fun doc0 =>
  -- `if default is None: doc, default = extract_default(doc, emit_default_doc=emit_default_doc)`
  let ex : Res (Option Str × Option Val) := match a.default, doc0 with
    | some d, doc => .ok (doc, some d)
    | none, none => .ok (none, none)
    | none, some h => (extractDefault h none edd).bind fun e => .ok (some e.doc, e.default)
  ex.bind fun dd =>
  .ok { doc := dd.1, typ := some (typStage a.choices a.action a.required (typ0Of a.typ)),
        default := match dd.2 with
          | some d => some d
          | none => fillDefault (typ0Of a.typ) a.required requireDefault }

/-- one entry through the argparse emitter and parser (`parse.argparse_ast` passes `emit_default_doc=False`) -/
def argRT (name : Str) (p : Param) (edd requireDefault : Bool) : Res Param :=
  (param2argparse name p edd).bind fun a => parseOutParam a requireDefault false

/-- all the options of one function: `emit.argparse_function` maps `param2argparse_param` over the entries,
    `parse.argparse_ast` reads the calls back in order and switches `require_default` on after the first option
    that came back with a default -/
def argparseParams (edd : Bool) : List (Str × Param) → Bool → Res (List (Str × Param))
  | [], _ => .ok []
  | (n, p) :: rest, rd =>
    (argRT n p edd rd).bind fun q =>
    (argparseParams edd rest (rd || required0Of q.default)).bind fun qs =>
    .ok ((n, q) :: qs)

end ArgAttr
end Py
