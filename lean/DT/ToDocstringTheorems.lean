import DT.ToDocstring
import DT.RestLines
/-! C02 / C03, the docstring of an emitted class / function (`emitter_utils.to_docstring`): on a typed, described,
    default-free entry with one line of prose, every helper the entry goes through (`extract_default`, `set_default_doc`,
    `indent_all_but_first`, `multiline`, `emit_param_str`, the `_joiner`) leaves the text alone. -/
namespace Py
namespace ToDocstring

theorem tabs_eq (n : Nat) : tabs n = List.replicate (4 * n) ' ' := by
  induction n with
  | zero => rfl
  | succ k ih =>
    have h4 : 4 * (k + 1) = 4 + 4 * k := by omega
    have hstep : tabs (k + 1) = tab ++ tabs k := by simp [tabs, List.replicate_succ]
    rw [hstep, ih, h4, ← List.replicate_append_replicate]
    rfl

theorem tabs_ws (n : Nat) : ∀ c ∈ tabs n, pyWs.contains c = true :=
  tabs_eq n ▸ List.forall_mem_replicate.mpr (.inr (by decide))

theorem tabs_no_nl (n : Nat) : '\n' ∉ tabs n := by
  rw [tabs_eq]; intro h; exact absurd (List.eq_of_mem_replicate h) (by decide)

theorem indentAllButFirstN_single (k : Nat) (s : Str) (hnl : '\n' ∉ s) (hs : Trimmed s) (hne : s ≠ []) :
    indentAllButFirstN k s = s := by
  have hno : '\n' ∉ tabs k ++ s := List.not_mem_append (tabs_no_nl k) hnl
  rw [indentAllButFirstN, indentLines_single _ s hnl hs hne, splitOnChar_no_sep '\n' _ hno]
  exact stripLeft_pad pyWs (tabs k) s (tabs_ws k) hs.1

/-- characters `multiline` strips from the end -/
def mlEnd : Str := [' ', '\n', '\\']

theorem multiline_single (s : Str) (hnl : '\n' ∉ s) (hne : s ≠ []) (hlast : ∀ c, s.getLast? = some c → mlEnd.contains c = false) :
    multiline s = s := by
  have hsl : DocScan.splitLines s = [s] := by
    unfold DocScan.splitLines
    rw [splitOnChar_no_sep '\n' s hnl]
    cases s with
    | nil => exact absurd rfl hne
    | cons a t => simp
  rw [multiline, hsl, List.map_cons, List.map_nil, joinWith_single]
  exact stripRight_pad mlEnd s _ (by decide) hlast

theorem reindent_single (sep s : Str) (hnl : '\n' ∉ s) : reindent sep s = s := by
  unfold reindent
  rw [splitOnChar_no_sep '\n' s hnl]
  rfl

/-- the helpers' results are hypotheses: what is left is the two lines as `emit_param_str` writes them, put together
    by the `_joiner` -/
theorem entryBlockP_of (n d t : Str) (dflt : Option Val) (edd : Bool) (level : Nat) (emitTypes : Bool) (A B : Str)
    (hdne : d.isEmpty = false) (htne : t.isEmpty = false)
    (hx : extractDefault d none edd = .ok ⟨d, none⟩)
    (hsd : setDefaultDoc n ⟨some d, some t, dflt⟩ edd = .ok ⟨some d, some t, dflt⟩)
    (hml : multiline (indentAllButFirstN (level - 1) d) = d)
    (hA : indentAllButFirst ([':'] ++ keyOf n ++ [':', ' '] ++ d) = A)
    (hB : indentAllButFirst ([':'] ++ keyTypOf n ++ [':', ' ', '`', '`', '`'] ++ t ++ ['`', '`', '`']) = B) :
    entryBlockP n ⟨some d, some t, dflt⟩ edd level emitTypes =
      .ok (some (if emitTypes then reindent (tabs level) A ++ ['\n'] ++ tabs level ++ reindent (tabs level) B ++ ['\n'] ++ tabs level
                 else A ++ ['\n'] ++ tabs level), ⟨some d, some t, dflt⟩) := by
  unfold entryBlockP
  simp only [hx, Res.bind, hdne, Bool.not_false, if_true, hsd, hml, Bool.false_eq_true, if_false, hA, hB, htne, Bool.false_or]
  cases emitTypes <;> rfl

theorem keyOf_plain {n : Str} (hn : NameOK n) : keyOf n = kParam ++ n := by
  have : (n == retName) = false := by simpa using hn.notRet
  rw [keyOf, this]; rfl

theorem keyTypOf_plain {n : Str} (hn : NameOK n) : keyTypOf n = kType ++ n := by
  have : (n == retName) = false := by simpa using hn.notRet
  rw [keyTypOf, this]; rfl

open NumpyRT in
/-- **one entry block of `to_docstring`** (`_param2docstring_param` + `_joiner`) on a typed, described, default-free
    entry: the `:param` line, then (types in the docstring) the `:type` line, each followed by a line break and the
    indentation - at EVERY indentation level; the entry itself is left as it was -/
theorem entryBlockP_plain (n d t : Str) (hn : NameOK n) (hd : NumpyRT.NDoc d) (hs : ∀ c, d.getLast? = some c → c ≠ '\\')
    (ht : TypOK t) (edd : Bool) (level : Nat) (emitTypes : Bool) :
    entryBlockP n (mkParam d t) edd level emitTypes =
      .ok (some (if emitTypes then docLine n d ++ ['\n'] ++ tabs level ++ typLine n t ++ ['\n'] ++ tabs level
                 else docLine n d ++ ['\n'] ++ tabs level), mkParam d t) := by
  have hsd := hd.setDefaultDoc_eq n t edd
  have hdo := hd.1
  -- the prose ends with a visible character that is not a back-slash, so `multiline` strips nothing
  have hlast : ∀ c, d.getLast? = some c → mlEnd.contains c = false := fun c hc =>
    not_contains_of_test (fun c => !pyWs.contains c && c != '\\')
      (by simp only [hdo.trimmed.2 c hc, Bool.not_false, Bool.true_and, bne_iff_ne]; exact hs c hc) (by decide)
  have hml : multiline (indentAllButFirstN (level - 1) d) = d := by
    rw [indentAllButFirstN_single (level - 1) d hdo.oneLine hdo.trimmed hdo.ne, multiline_single d hdo.oneLine hdo.ne hlast]
  rw [mkParam, entryBlockP_of n d t none edd level emitTypes (docLine n d) (typLine n t)
    (List.isEmpty_eq_false_iff.mpr hdo.ne) (List.isEmpty_eq_false_iff.mpr ht.ne)
    (extract_none d hdo.noAnnounce none edd) hsd hml
    (by rw [keyOf_plain hn]; exact indent_doc (kParam ++ n) d (hn.nl_key kParam (by decide)) hdo)
    (by rw [keyTypOf_plain hn, restLine_ticks, typLine_eq]; exact indent_typ (kType ++ n) t (hn.nl_key kType (by decide)) ht),
    reindent_single _ _ (docLine_no (by decide) hn.noNl hdo.oneLine),
    reindent_single _ _ (typLine_no (by decide) hn.noNl ht.oneLine)]

def blockOf (level : Nat) (emitTypes : Bool) (x : Triple) : Str :=
  if emitTypes then docLine x.1 x.2.1 ++ ['\n'] ++ tabs level ++ typLine x.1 x.2.2 ++ ['\n'] ++ tabs level
  else docLine x.1 x.2.1 ++ ['\n'] ++ tabs level

/-- beyond `TripleOK'`: `multiline` would strip a back-slash at the end of the prose -/
def BlockOK (x : Triple) : Prop := NumpyRT.TripleOK' x ∧ ∀ c, x.2.1.getLast? = some c → c ≠ '\\'

theorem blockOf_ne (level : Nat) (emitTypes : Bool) (x : Triple) : (blockOf level emitTypes x).isEmpty = false := by
  cases emitTypes <;> rfl

theorem entryBlocks_plain (edd : Bool) (level : Nat) (emitTypes : Bool) : ∀ (ts : List Triple), (∀ x ∈ ts, BlockOK x) →
    entryBlocks edd level emitTypes (ts.map entryOf) = .ok (ts.map (blockOf level emitTypes))
  | [], _ => rfl
  | x :: ts, h => by
    obtain ⟨⟨hn, hd, ht⟩, hs⟩ := h x (by simp)
    have ih := entryBlocks_plain edd level emitTypes ts (fun y hy => h y (by simp [hy]))
    have hb : entryBlockP x.1 (mkParam x.2.1 x.2.2) edd level emitTypes =
        .ok (some (blockOf level emitTypes x), mkParam x.2.1 x.2.2) :=
      entryBlockP_plain x.1 x.2.1 x.2.2 hn hd hs ht edd level emitTypes
    simp only [List.map_cons, entryBlocks, entryBlock, entryOf, hb, Res.bind, ih, blockOf_ne, Bool.false_eq_true, if_false]

/-- **`to_docstring` on the default-free domain**: a one-line summary and ≥ 1 typed, described, default-free entries give
    the summary line, an empty line, then the blocks joined by a line break - every line at the indentation the caller
    asked for (`emit_separating_tab`), at every indentation level, with the types in the docstring or not -/
theorem toDocstring_text (D : Str) (ts : List Triple) (hne : ts ≠ []) (hok : ∀ x ∈ ts, BlockOK x)
    (hDne : D ≠ []) (hDt : Trimmed D) (hDnl : '\n' ∉ D)
    (hsepD : DocScan.otherSeparators D = false) (hsepP : ∀ x ∈ ts, DocScan.otherSeparators x.2.1 = false)
    (edd : Bool) (level : Nat) (emitTypes emitSepTab : Bool) :
    toDocstring (mkIR D ts) edd level emitTypes emitSepTab =
      .ok (let sep := if emitSepTab then tabs level else []
           ['\n'] ++ sep ++ D ++ ['\n'] ++ sep ++
           (['\n'] ++ sep ++ joinWith (['\n'] ++ sep) (ts.map (blockOf level emitTypes)) ++ ['\n'] ++ sep)) := by
  have hany : (ts.map entryOf).any (fun kp => DocScan.otherSeparators (kp.2.doc.getD [])) = false := by
    rw [List.any_map, List.any_eq_false]
    exact fun x hx => Bool.eq_false_iff.mp (hsepP x hx)
  have hDe : D.isEmpty = false := List.isEmpty_eq_false_iff.mpr hDne
  have hpe : (ts.map entryOf).isEmpty = false := List.isEmpty_eq_false_iff.mpr (by simpa using hne)
  -- the summary is one trimmed line: the header is the summary behind the indentation, and one line break is added
  have hstripD : stripRight [' ', '\t'] D = D :=
    stripRight_keep _ D fun c hc =>
      not_contains_of_test (fun c => !pyWs.contains c) (by rw [hDt.2 c hc]; rfl) (by decide)
  have hends : endsWith D ['\n'] = false :=
    Bool.eq_false_iff.mpr fun h => hDnl (((endsWith_iff _ _).mp h).subset (List.mem_singleton_self _))
  have h0 : DocScan.otherSeparators ([] : Str) = false := rfl
  simp only [toDocstring, mkIR, hsepD, hany, h0, Bool.or_self, Bool.false_eq_true, if_false, Option.bind, Option.getD_none,
    entryBlocks_plain edd level emitTypes ts hok, Res.bind, hDe, hpe, indentLines_single _ D hDnl hDt hDne, hstripD, hends]
  cases emitSepTab <;> simp

end ToDocstring
end Py
