import DT.RestRT
import DT.NumpyRT
import DT.GoogleRT
import DT.FuncDocRT
/-! Non-vacuity of the docstring theorems: ONE concrete description - a summary and two typed, described entries, the
    second also used as the return entry - satisfies every hypothesis of each of the partial round-trip theorems
    (C01 in the three styles, with and without a return entry; `toDocstring_text`, `cleandoc_toDocstring` and the two C03
    theorems), and the `#eval`s show the text in question. The facts about the description are stated once, in the form
    the theorems ask for them. -/
namespace Py

def exD : Str := ['S', 'u', 'm', ' ', 't', 'w', 'o', '.']
def exA : Triple := (['a'], ['t', 'h', 'e', ' ', 'a', '.'], ['i', 'n', 't'])
def exB : Triple := (['l', 'r'], ['s', 't', 'e', 'p', ',', ' ', 'e', '.', 'g', '.', ' ', '0', '.', '5'],
                     ['O', 'p', 't', 'i', 'o', 'n', 'a', 'l', '[', 'f', 'l', 'o', 'a', 't', ']'])

/- Every field is a finite fact about a fixed text, closed by evaluation; a literal `"…".toList` is first rewritten to the
   list of its characters (`String.toList_ofList`) so that nothing decodes it. Prose without the word `default` announces
   none (`locate_phrases_none`). Where a whole emitted text is evaluated the kernel alone does it (`decide +kernel`). -/
theorem exA_ok : TripleOK exA :=
  ⟨⟨by decide, by decide, by decide, by decide, by decide,
    by rw [String.toList_ofList]; decide, by decide⟩,
   ⟨by decide, Trimmed.of_ends _ _ rfl rfl (by decide) (by decide), by decide, by decide,
    locate_phrases_none _ (by decide), by rw [String.toList_ofList]; decide,
    by rw [String.toList_ofList]; decide⟩,
   ⟨by decide, Trimmed.of_ends _ _ rfl rfl (by decide) (by decide), by decide, by decide,
    by decide, by decide, by rw [String.toList_ofList]; decide⟩⟩

theorem exB_ok : TripleOK exB :=
  ⟨⟨by decide, by decide, by decide, by decide, by decide,
    by rw [String.toList_ofList]; decide, by decide⟩,
   ⟨by decide, Trimmed.of_ends _ _ rfl rfl (by decide) (by decide), by decide, by decide,
    locate_phrases_none _ (by decide), by rw [String.toList_ofList]; decide,
    by rw [String.toList_ofList]; decide⟩,
   ⟨by decide, Trimmed.of_ends _ _ rfl rfl (by decide) (by decide), by decide, by decide,
    by decide, by decide, by rw [String.toList_ofList]; decide⟩⟩

theorem ex_all {P : Triple → Prop} (ha : P exA) (hb : P exB) : ∀ x ∈ [exA, exB], P x := by simp [ha, hb]

theorem ex_ok : ∀ x ∈ [exA, exB], TripleOK x := ex_all exA_ok exB_ok
theorem ex_nodup : ([exA, exB].map (·.1)).Nodup := by decide
theorem exD_ne : exD ≠ [] := by decide
theorem exD_trimmed : Trimmed exD := Trimmed.of_ends _ _ rfl rfl (by decide) (by decide)
theorem exD_oneLine : '\n' ∉ exD := by decide
theorem exD_ncl : ncl exD = true := by decide

example : ((emitDocstringRest (mkIR exD ([exA] ++ [exB])) true).bind fun text => parseDocstringRest text true)
    = .ok (mkIR exD ([exA] ++ [exB])) :=
  C01_rest_nodefault_partial exD [exA] exB exD_ne exD_trimmed exD_ncl ex_ok ex_nodup

#eval (emitDocstringRest (mkIR exD ([exA] ++ [exB])) true) |> fun r => match r with | .ok t => String.ofList t | _ => "?"

example : ((emitDocstringRest (mkIRr exD ([exA] ++ [exB]) exB.2.1 exB.2.2) true).bind fun text => parseDocstringRest text true)
    = .ok (mkIRr exD ([exA] ++ [exB]) exB.2.1 exB.2.2) :=
  C01_rest_return_partial exD [exA] exB exB.2.1 exB.2.2 exD_ne exD_trimmed exD_ncl ex_ok ex_nodup
    exB_ok.2.1 exB_ok.2.2

#eval (emitDocstringRest (mkIRr exD ([exA] ++ [exB]) exB.2.1 exB.2.2) true) |> fun r => match r with | .ok t => String.ofList t | _ => "?"

namespace NumpyRT
open DocEmit DocParse

theorem exA_ok' : TripleOK' exA :=
  ⟨exA_ok.1, ⟨exA_ok.2.1, by rw [String.toList_ofList]; decide, by rw [String.toList_ofList]; decide⟩,
   exA_ok.2.2⟩
theorem exB_ok' : TripleOK' exB :=
  ⟨exB_ok.1, ⟨exB_ok.2.1, by rw [String.toList_ofList]; decide, by rw [String.toList_ofList]; decide⟩,
   exB_ok.2.2⟩

theorem margin_dec (n : Str) (h : (n.head?.map DocScan.isPySpace) = some false) : AtMargin n := by
  intro c hc; rw [hc] at h; simpa using h

theorem ex_ok' : ∀ x ∈ [exA, exB], TripleOK' x := ex_all exA_ok' exB_ok'
theorem ex_margin : ∀ x ∈ [exA, exB], AtMargin x.1 :=
  ex_all (margin_dec _ (by decide)) (margin_dec _ (by decide))
theorem ex_names_trimmed : ∀ x ∈ [exA, exB], Trimmed x.1 :=
  ex_all (Trimmed.of_ends _ _ rfl rfl (by decide) (by decide)) (Trimmed.of_ends _ _ rfl rfl (by decide) (by decide))
theorem ex_colon : ∀ x ∈ [exA, exB], endsWith x.2.2 [':'] = false := by decide
theorem exD_noP : 'P' ∉ exD := by decide

example : ((emitDocstring .numpydoc (mkIR exD [exA, exB]) true).bind fun text => parseDocstring .numpydoc text true)
    = .ok (mkIR exD [exA, exB]) :=
  C01_numpydoc_nodefault_partial exD [exA, exB] (by simp) ex_ok' ex_margin ex_names_trimmed ex_colon
    exD_ne exD_trimmed exD_noP (by decide +kernel) ex_nodup true true

#eval (emitDocstring .numpydoc (mkIR exD [exA, exB]) true) |> fun r => match r with | .ok t => String.ofList t | _ => "?"

example : ((emitDocstring .numpydoc (mkIRr exD [exA, exB] exB.2.1 exB.2.2) true).bind fun text => parseDocstring .numpydoc text true)
    = .ok (mkIRr exD [exA, exB] exB.2.1 exB.2.2) :=
  C01_numpydoc_return_partial exD [exA, exB] exB.2.1 exB.2.2 (by simp) ex_ok' ex_margin ex_names_trimmed ex_colon
    exB_ok'.2.1 exB_ok'.2.2 (margin_dec _ (by decide))
    exD_ne exD_trimmed exD_noP (by decide +kernel) ex_nodup true true

#eval (emitDocstring .numpydoc (mkIRr exD [exA, exB] exB.2.1 exB.2.2) true) |> fun r => match r with | .ok t => String.ofList t | _ => "?"
end NumpyRT

namespace GoogleRT
open DocEmit DocParse NumpyRT

theorem gA : GOK exA :=
  ⟨by decide, Trimmed.of_ends _ _ rfl rfl (by decide) (by decide), by decide, by decide,
   by decide, by decide⟩
theorem gB : GOK exB :=
  ⟨by decide, Trimmed.of_ends _ _ rfl rfl (by decide) (by decide), by decide, by decide,
   by decide, by decide⟩
theorem ex_gok : ∀ x ∈ [exA, exB], GOK x := ex_all gA gB
theorem exD_noA : 'A' ∉ exD := by decide

example : ((emitDocstring .google (mkIR exD [exA, exB]) true).bind fun text => parseDocstring .google text false)
    = .ok (mkIR exD [exA, exB]) :=
  C01_google_nodefault_partial exD [exA, exB] (by simp) ex_ok' ex_gok ex_margin
    exD_ne exD_trimmed exD_noA (by decide +kernel) ex_nodup true false

#eval (emitDocstring .google (mkIR exD [exA, exB]) true) |> fun r => match r with | .ok t => String.ofList t | _ => "?"

example : ((emitDocstring .google (NumpyRT.mkIRr exD [exA, exB] exB.2.1 exB.2.2) true).bind fun text => parseDocstring .google text false)
    = .ok (NumpyRT.mkIRr exD [exA, exB] exB.2.1 exB.2.2) :=
  C01_google_return_partial exD [exA, exB] exB.2.1 exB.2.2 (by simp) ex_ok' ex_gok ex_margin
    exB_ok'.2.1 exB_ok'.2.2 (margin_dec _ (by decide))
    exD_ne exD_trimmed exD_noA (by decide +kernel) ex_nodup true false

#eval (emitDocstring .google (NumpyRT.mkIRr exD [exA, exB] exB.2.1 exB.2.2) true) |> fun r => match r with | .ok t => String.ofList t | _ => "?"
end GoogleRT

namespace ToDocstring
open NumpyRT

theorem bA : BlockOK exA := ⟨exA_ok', by decide⟩
theorem bB : BlockOK exB := ⟨exB_ok', by decide⟩

theorem ex_blocks : ∀ x ∈ [exA, exB], BlockOK x := ex_all bA bB
theorem ex_seps : ∀ x ∈ [exA, exB], DocScan.otherSeparators x.2.1 = false := by decide +kernel
theorem exD_sep : DocScan.otherSeparators exD = false := by decide

example : toDocstring (mkIR exD [exA, exB]) false 2 true true =
    .ok (let sep := tabs 2
         ['\n'] ++ sep ++ exD ++ ['\n'] ++ sep ++
         (['\n'] ++ sep ++ joinWith (['\n'] ++ sep) ([exA, exB].map (blockOf 2 true)) ++ ['\n'] ++ sep)) :=
  toDocstring_text exD [exA, exB] (by simp)
    ex_blocks exD_ne exD_trimmed exD_oneLine exD_sep ex_seps false 2 true true

#eval (toDocstring (mkIR exD [exA, exB]) false 2 true true) |> fun r => match r with | .ok t => String.ofList t | _ => "?"
end ToDocstring

namespace FuncDoc
open ToDocstring NumpyRT

theorem ex_notab : ∀ x ∈ [exA, exB], NoTab x := by unfold NoTab; decide +kernel
theorem exD_notab : '\t' ∉ exD := by decide
theorem exD_margin : AtMargin exD := margin_dec _ (by decide)

example : ((toDocstring (mkIR exD [exA, exB]) false 2 true true).bind cleandoc) =
    .ok (joinWith ['\n'] (trimBlank ([] :: contentLines exD [exA, exB]))) :=
  cleandoc_toDocstring exD [exA, exB] (by simp) ex_blocks exD_ne exD_trimmed exD_oneLine exD_margin exD_notab exD_sep ex_seps
    ex_notab false 2

theorem ex_clean : trimBlank ([] :: contentLines exD [exA, exB]) =
    [exD, [], docLine exA.1 exA.2.1, typLine exA.1 exA.2.2, [], docLine exB.1 exB.2.1, typLine exB.1 exB.2.2] := rfl

#eval String.ofList (joinWith ['\n'] (trimBlank ([] :: contentLines exD [exA, exB])))

/- indentation level 2, as `emit.function` uses for a method -/
example : funcDocRT (mkIR exD ([exA] ++ [exB])) false 2 true true = .ok (mkIR exD ([exA] ++ [exB])) :=
  C03_docstring_half_partial exD [exA] exB ex_blocks exD_ne exD_trimmed exD_oneLine exD_margin exD_notab exD_ncl exD_sep
    ex_seps ex_notab ex_nodup false 2

end FuncDoc

namespace FuncDocInline
open ToDocstring NumpyRT FuncDoc

/- indentation level 1, as `emit.function` uses for a module-level function -/
example : funcDocRT (mkIR exD ([exA] ++ [exB])) false 1 false true = .ok (mkIRd exD (([exA] ++ [exB]).map pairOf)) :=
  C03_docstring_half_inline_partial exD [exA] exB ex_blocks exD_ne exD_trimmed exD_oneLine exD_margin exD_notab exD_ncl
    exD_sep ex_seps ex_notab ex_nodup false 1

end FuncDocInline
end Py
