import DT.DocParseTheorems
import DT.DocScanTheorems
/-! The whole-docstring round trip of the **google** style on the default-free domain, with or without a return entry: the
    same statement as `NumpyRT.C01_numpydoc_partial`, through the google entry emitter, the dedent that ends the `Args:`
    section in the scan loop, and the google entry parser. With a return entry that dedent finds the return token on the
    next line (`viaNextLine`), the lines after it become the return lines, and the parse phase reads `  type:` /
    `   prose` back. -/
namespace Py
namespace GoogleRT
open DocEmit DocScan DocParse NumpyRT

def lineG (x : Triple) : Str := [' ', ' '] ++ x.1 ++ [' ', '('] ++ x.2.2 ++ [')', ':', ' '] ++ x.2.1

def sRetG : Str := ['R', 'e', 't', 'u', 'r', 'n', 's', ':']
theorem retTokG_eq : returnToken .google = sRetG := String.toList_ofList

def rtLine (tr : Str) : Str := [' ', ' '] ++ tr ++ [':']
def rdLine (dr : Str) : Str := [' ', ' ', ' '] ++ dr
def retLinesG (tr dr : Str) : List Str := [[], sRetG, rtLine tr, rdLine dr]

theorem emitGoogle_plain (name d t : Str) (hd : NDoc d) (ht : TypOK t) (e : Bool) :
    emitParamStrGoogle name (mkParam d t) e =
      .ok (if name == retName then rtLine t ++ ['\n'] ++ rdLine d else lineG (name, d, t)) := by
  have hsd := hd.setDefaultDoc_eq name t e
  unfold emitParamStrGoogle
  simp only [mkParam] at hsd ⊢
  simp only [nonEmpty, List.isEmpty_eq_false_iff.mpr ht.ne, List.isEmpty_eq_false_iff.mpr hd.1.ne, Bool.false_eq_true,
    if_false, hsd, Res.bind]
  split <;> simp [lineG, rtLine, rdLine]

def tailG : Str := ['\n', '\n']

def textG (D : Str) (ts : List Triple) : Str :=
  preN D ++ argToken .google ++ ['\n'] ++ joinWith ['\n'] (ts.map lineG) ++ tailG

def textGR (D : Str) (ts : List Triple) (dr tr : Str) : Str :=
  preN D ++ argToken .google ++ ['\n'] ++ joinWith ['\n'] (ts.map lineG ++ retLinesG tr dr) ++ ['\n']

/-- the lines behind the entries -/
def retLinesGO : Option (Str × Str) → List Str
  | none => [[]]
  | some x => retLinesG x.2 x.1

def textGo (D : Str) (ts : List Triple) (r : Option (Str × Str)) : Str :=
  preN D ++ argToken .google ++ '\n' :: (joinWith ['\n'] (ts.map lineG ++ retLinesGO r) ++ List.replicate 1 '\n')

theorem textGo_none (D : Str) (ts : List Triple) (hne : ts ≠ []) : textGo D ts none = textG D ts := by
  rw [textGo, textG, joinWith_append ['\n'] _ _ (by simpa using hne) (by simp [retLinesGO])]
  simp [retLinesGO, joinWith, tailG]

theorem textGo_some (D : Str) (ts : List Triple) (dr tr : Str) : textGo D ts (some (dr, tr)) = textGR D ts dr tr := by
  simp [textGo, textGR, retLinesGO]

theorem emit_text (D : Str) (ts : List Triple) (r : Option (Str × Str)) (hne : ts ≠ []) (hok : ∀ x ∈ ts, TripleOK' x)
    (hr : RetOK' r) (e : Bool) :
    emitDocstring .google (mkIRo D ts r) e = .ok (textGo D ts r) := by
  have hents := emitEntries_map .google e lineG ts fun y hy => by
    have hy := hok y hy
    rw [emitEntry, emitGoogle_plain y.1 y.2.1 y.2.2 hy.2.1 hy.2.2 e, if_neg (by simpa using hy.1.notRet)]
  have hret : emitReturn .google (retParam r) e = .ok (joinWith ['\n'] (retLinesGO r)) := by
    cases r with
    | none => rfl
    | some y =>
      simp only [emitReturn, retParam, Option.map_some, emitEntry, emitGoogle_plain retName y.1 y.2 (hr y rfl).1 (hr y rfl).2 e,
        Res.bind, beq_self_eq_true, if_true, retTokG_eq]
      simp [retLinesGO, retLinesG, joinWith]
  rw [textGo, joinWith_append ['\n'] _ _ (by simpa using hne) (by cases r <;> simp [retLinesGO, retLinesG])]
  exact emitDocstring_closed .google (mkIRo D ts r) e _ _ (by simpa using hne) hents hret

theorem lws_lineG (x : Triple) (hne : x.1 ≠ []) (h : AtMargin x.1) : lws (lineG x) = 2 := by
  simpa [lineG] using lws_pad [' ', ' '] _ (by decide) (h.append hne ([' ', '('] ++ x.2.2 ++ [')', ':', ' '] ++ x.2.1))

theorem scanLoop_entries (r : Option (Str × Str)) (ts : List Triple) (pre : List Str) (lp : Loop) (fuel : Nat)
    (hm : ∀ x ∈ ts, x.1 ≠ [] ∧ AtMargin x.1) (hf : ts.length + 1 ≤ fuel) (hns : lp.nsArgs = true) :
    scanLoop .google (pre ++ ts.map lineG ++ retLinesGO r) 2 fuel pre.length lp =
      .ok { lp with stacker := [], broke := true,
                    sc := { lp.sc with args := lp.sc.args ++ (lp.stacker ++ ts.map (fun x => [lineG x])),
                                       rets := match r with
                                         | none => lp.sc.rets
                                         | some x => .lines [rtLine x.2, rdLine x.1] } } := by
  obtain ⟨k, rfl⟩ : ∃ k, fuel = (k + 1) + (ts.map lineG).length := ⟨fuel - (ts.length + 1), by simp; omega⟩
  have hl : ∀ l ∈ ts.map lineG, lws l = 2 := List.forall_mem_map.mpr fun x hx => lws_lineG x (hm x hx).1 (hm x hx).2
  have hfold : (ts.map lineG).foldl (groupStep 2) lp.stacker = lp.stacker ++ ts.map (fun x => [lineG x]) := by
    rw [fold_groupStep_flat 2 _ _ hl, List.map_map]; rfl
  rw [scanLoop_indented .google _ 2 (ts.map lineG) (retLinesGO r) (k + 1) pre.length lp (by simp)
      (fun l h => Nat.le_of_eq (hl l h).symm) (Or.inr fun l h => hl l (List.mem_of_mem_head? h)), hfold]
  cases r with
  | none =>
    rw [scanLoop_dedent_last .google _ 2 k _ _ [] (by simp [retLinesGO]) (by decide)]
    simp [setNs, hns]
  | some x =>
    rw [scanLoop_dedent_ret .google _ 2 k _ _ [] (rtLine x.2) (rdLine x.1) (by simp [retLinesGO, retLinesG, retTokG_eq])
      (by decide)]
    simp [setNs, hns]

/-- C01 (google): the scan loop over the entry lines and the empty line that ends the `Args:` section (a dedent) -/
theorem scanLoop_google : ∀ (ts : List Triple) (pre : List Str) (lp : Loop) (fuel : Nat),
    (∀ x ∈ ts, x.1 ≠ [] ∧ AtMargin x.1) → ts.length + 1 ≤ fuel → lp.nsArgs = true →
    scanLoop .google (pre ++ ts.map lineG ++ [[]]) 2 fuel pre.length lp =
      .ok { lp with stacker := [], broke := true,
                    sc := { lp.sc with args := lp.sc.args ++ (lp.stacker ++ ts.map (fun x => [lineG x])) } } :=
  fun ts pre lp fuel hm hf hns => scanLoop_entries none ts pre lp fuel hm hf hns

/-- with a return entry the dedent finds `Returns:` on the next line and takes the two lines behind it, whatever their
    indentation (`hdne`, `hdm` are not used) -/
theorem scanLoop_googleR (tr dr : Str) (hdne : dr ≠ []) (hdm : AtMargin dr) :
    ∀ (ts : List Triple) (pre : List Str) (lp : Loop) (fuel : Nat),
    (∀ x ∈ ts, x.1 ≠ [] ∧ AtMargin x.1) → ts.length + 1 ≤ fuel → lp.nsArgs = true →
    scanLoop .google (pre ++ ts.map lineG ++ retLinesG tr dr) 2 fuel pre.length lp =
      .ok { lp with stacker := [], broke := true,
                    sc := { lp.sc with args := lp.sc.args ++ (lp.stacker ++ ts.map (fun x => [lineG x])),
                                       rets := .lines [rtLine tr, rdLine dr] } } :=
  fun ts pre lp fuel hm hf hns => scanLoop_entries (some (dr, tr)) ts pre lp fuel hm hf hns

/-- what the google domain asks of an entry beyond `TripleOK'`: the conditions of `parseGoogle_emitted`, and in
    `docNoColonEnd` that of `startsSection`, which looks at the whole line -/
structure GOK (x : Triple) : Prop where
  noParen : '(' ∉ x.1
  trimmedName : Trimmed x.1
  typNoColon : ':' ∉ x.2.2
  typNoOr : containsOr x.2.2 = false
  noBrace : (decide (x.2.1.length > 3) && startsWith x.2.1 ['{'] && endsWith x.2.1 ['}']) = false
  docNoColonEnd : endsWith (lineG x) [':'] = false

theorem lineG_no_nl (x : Triple) (hx : TripleOK' x) : '\n' ∉ lineG x := by
  simp [lineG, hx.1.noNl, hx.2.2.oneLine, hx.2.1.1.oneLine]

theorem retLinesGO_no_nl (r : Option (Str × Str)) (hr : RetOK' r) : ∀ l ∈ retLinesGO r, '\n' ∉ l := by
  cases r with
  | none => simp [retLinesGO]
  | some x =>
    intro l hl
    simp only [retLinesGO, retLinesG, List.mem_cons, List.not_mem_nil, or_false] at hl
    rcases hl with rfl | rfl | rfl | rfl
    · simp
    · decide
    · simp [rtLine, (hr x rfl).2.oneLine]
    · simp [rdLine, (hr x rfl).1.1.oneLine]

def retsG : Option (Str × Str) → Rets
  | none => .lines []
  | some x => .lines [rtLine x.2, rdLine x.1]

theorem scanPhase_text (D : Str) (ts : List Triple) (r : Option (Str × Str)) (hne : ts ≠ [])
    (hok : ∀ x ∈ ts, TripleOK' x) (hmargin : ∀ x ∈ ts, AtMargin x.1) (hr : RetOK' r)
    (hDne : D ≠ []) (hDt : Trimmed D) (hA : 'A' ∉ D)
    (hsep : otherSeparators (textGo D ts r) = false) :
    scanPhase .google (textGo D ts r) =
      .ok { doc := D, args := ts.map (fun x => [lineG x]), rets := retsG r, afterward := none } := by
  have hnames : ∀ y ∈ ts, y.1 ≠ [] ∧ AtMargin y.1 := fun y hy => ⟨(hok y hy).1.ne, hmargin y hy⟩
  obtain ⟨x, xs, rfl⟩ := List.exists_cons_of_ne_nil hne
  have hl := splitLines_joined ((x :: xs).map lineG ++ retLinesGO r) 0 (by simp)
    (List.forall_mem_append.mpr ⟨List.forall_mem_map.mpr fun y hy => lineG_no_nl y (hok y hy), retLinesGO_no_nl r hr⟩)
  rw [List.replicate_zero, List.append_nil] at hl
  have hloop := scanLoop_entries r (x :: xs) [] { sc := { doc := D }, nsArgs := true }
    (((x :: xs).map lineG ++ retLinesGO r).length + 1) hnames (by simp) rfl
  simp only [List.nil_append, List.length_nil] at hloop
  have hA' : 'A' ∉ preN D := by simp [preN, hA]
  rw [textGo] at hsep ⊢
  rw [scanPhase_section .google _ _ 'A' (argToken_head .google) hA' hsep (lineG x) _ hl rfl,
    lws_lineG x (hnames x (by simp)).1 (hnames x (by simp)).2, strip_preN D hDne hDt, hloop, Res.bind,
    scanTail_nil _ _ rfl]
  cases r <;> rfl

theorem parseGoogle_unit (x : Triple) (hx : TripleOK' x) (hg : GOK x) :
    parseGoogle [lineG x] = .ok (x.1, { typ := some x.2.2, doc := some x.2.1 }) :=
  parseGoogle_emitted x.1 x.2.2 x.2.1 hx.1.noColon hg.noParen hg.typNoColon hx.1.ne hg.trimmedName hx.2.2.ne hg.typNoOr
    hx.2.1.1.trimmed hx.2.1.1.ne hg.noBrace

theorem parse_text (D : Str) (ts : List Triple) (r : Option (Str × Str)) (hne : ts ≠ []) (hok : ∀ x ∈ ts, TripleOK' x)
    (hg : ∀ x ∈ ts, GOK x) (hmargin : ∀ x ∈ ts, AtMargin x.1) (hr : RetOK' r)
    (hDne : D ≠ []) (hDt : Trimmed D) (hA : 'A' ∉ D)
    (hsep : otherSeparators (textGo D ts r) = false) (hnd : (ts.map (·.1)).Nodup) (e : Bool) :
    parseDocstring .google (textGo D ts r) e = .ok (mkIRo D ts r) := by
  have hents := parseEntries_plain .google e (fun x => [lineG x]) [] ts hok
    (fun x hx => by simp [parseUnit, parseGoogle_unit x (hok x hx) (hg x hx), Res.bind]) rfl
  rw [List.append_nil] at hents
  refine parseDocstring_of_scan .google _ D e _ _ ts r (scanPhase_text D ts r hne hok hmargin hr hDne hDt hA hsep)
    (List.forall_mem_map.mpr fun y hy => (hg y hy).docNoColonEnd) hents hnd hr.retOK ?_
  cases r with
  | none => rfl
  | some x =>
    have hdl : lstripWs (rdLine x.1) = x.1 := stripLeft_pad pyWs [' ', ' ', ' '] x.1 (by decide) (hr x rfl).1.1.trimmed.1
    have htl : lstripWs (rtLine x.2).dropLast = x.2 := by
      rw [rtLine, List.dropLast_concat]; exact stripLeft_pad pyWs [' ', ' '] x.2 (by decide) (hr x rfl).2.trimmed.1
    exact ⟨rfl, by simp [retsG, returnParam, hdl, htl]⟩

/-- **C01 (google), default-free domain, with or without a return entry**; the two statements below are its cases. The
    return prose may start with any character that `strip` keeps: the dedent takes the two lines behind `Returns:`
    whatever their indentation. -/
theorem C01_google_partial (D : Str) (ts : List Triple) (r : Option (Str × Str)) (hne : ts ≠ [])
    (hok : ∀ x ∈ ts, TripleOK' x) (hg : ∀ x ∈ ts, GOK x) (hmargin : ∀ x ∈ ts, AtMargin x.1) (hr : RetOK' r)
    (hDne : D ≠ []) (hDt : Trimmed D) (hA : 'A' ∉ D)
    (hsep : otherSeparators (textGo D ts r) = false) (hnd : (ts.map (·.1)).Nodup) (e e' : Bool) :
    ((emitDocstring .google (mkIRo D ts r) e).bind fun text => parseDocstring .google text e') = .ok (mkIRo D ts r) := by
  rw [emit_text D ts r hne hok hr e]
  exact parse_text D ts r hne hok hg hmargin hr hDne hDt hA hsep hnd e'

/-- **C01 (google) on the default-free domain**: a trimmed summary and ≥ 1 uniquely named parameters, each with a
    type and one line of prose, no defaults, no return entry: `emit.docstring` then `parse_docstring` is the identity and
    raises nothing - any number of parameters, texts of any length. (Partial: the summary does not contain the
    capital letter the section token starts with; names start at the left margin, are trimmed and hold no parenthesis;
    a type holds no colon and no " or "; prose is not a brace option list and does not end with a colon; no line
    separator other than `\n`.) -/
theorem C01_google_nodefault_partial (D : Str) (ts : List Triple) (hne : ts ≠ []) (hok : ∀ x ∈ ts, TripleOK' x)
    (hg : ∀ x ∈ ts, GOK x) (hmargin : ∀ x ∈ ts, AtMargin x.1) (hDne : D ≠ []) (hDt : Trimmed D) (hA : 'A' ∉ D)
    (hsep : otherSeparators (textG D ts) = false) (hnd : (ts.map (·.1)).Nodup) (e e' : Bool) :
    ((emitDocstring .google (mkIR D ts) e).bind fun text => parseDocstring .google text e') = .ok (mkIR D ts) :=
  C01_google_partial D ts none hne hok hg hmargin (fun _ h => nomatch h) hDne hDt hA
    (by rw [textGo_none D ts hne]; exact hsep) hnd e e'

/-- **C01 (google) with a return entry, default-free domain**: a trimmed summary, ≥ 1 uniquely named parameters and a
    return entry, each with a type and one line of prose, no defaults: `emit.docstring` then `parse_docstring` is the
    identity and raises nothing - any number of parameters, texts of any length. The dedent that ends the `Args:` section
    finds `Returns:` on the next line whatever the arguments are. (Restrictions as in `C01_google_nodefault_partial`;
    `hdm`, that the return prose starts with a character that is not white space, is not used.) -/
theorem C01_google_return_partial (D : Str) (ts : List Triple) (dr tr : Str) (hne : ts ≠ []) (hok : ∀ x ∈ ts, TripleOK' x)
    (hg : ∀ x ∈ ts, GOK x) (hmargin : ∀ x ∈ ts, AtMargin x.1)
    (hd : NDoc dr) (ht : TypOK tr) (hdm : AtMargin dr)
    (hDne : D ≠ []) (hDt : Trimmed D) (hA : 'A' ∉ D)
    (hsep : otherSeparators (textGR D ts dr tr) = false) (hnd : (ts.map (·.1)).Nodup) (e e' : Bool) :
    ((emitDocstring .google (NumpyRT.mkIRr D ts dr tr) e).bind fun text => parseDocstring .google text e') =
      .ok (NumpyRT.mkIRr D ts dr tr) :=
  C01_google_partial D ts (some (dr, tr)) hne hok hg hmargin (fun _ h => by cases h; exact ⟨hd, ht⟩) hDne hDt hA
    (by rw [textGo_some]; exact hsep) hnd e e'

end GoogleRT
end Py
