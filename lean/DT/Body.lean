import DT.Locate
/-! C16: carrying implementation bodies through parse and re-emission (list surgery on the statement
    list) and `emitter_utils.RewriteName` (parameter references become `self.<name>`), over the generic tree. -/
namespace PyAst
namespace Body

def itemKind : Item → String
  | .node n => n.kind
  | .atom _ => ""

def isReturn (it : Item) : Bool := itemKind it == "Return"

def isDocExpr : Item → Bool
  | .node n =>
    n.kind == "Expr" &&
    (match n.nodeField "value" with
     | some v => v.kind == "Constant" && (match v.atomField "value" with | some (.str _) => true | _ => false)
     | none => false)
  | .atom _ => false

/-- `parse.function`: `function_def.body if doc_str is None else function_def.body[1:]` -/
def parseBody (stmts : List Item) : List Item :=
  match stmts with
  | d :: rest => if isDocExpr d then rest else d :: rest
  | [] => []

def endsWithReturn (body : List Item) : Bool :=
  match body.getLast? with | some l => isReturn l | none => false

/-- `emit.function`: docstring, the carried body, then the return built from the description — only when
    the carried body does not itself end in a `return` (a carried body keeps its own final return) -/
def emitBody (doc : Item) (body : List Item) (ret : Option Item) : List Item :=
  [doc] ++ body ++ (if endsWithReturn body then [] else ret.toList)

/-- the code before the repair: the final return was dropped and re-created from the description -/
def emitBodyOld (doc : Item) (body : List Item) (ret : Option Item) : List Item :=
  [doc] ++ (if endsWithReturn body && ret.isSome then body.dropLast else body) ++ ret.toList

theorem endsWithReturn_snoc (b : List Item) (r : Item) : endsWithReturn (b ++ [r]) = isReturn r := by
  unfold endsWithReturn; simp

/-- **round trip of a body that ends in `return e`**, whatever return the description carries: every
    statement comes back, in order, once; the final return is kept once -/
theorem emit_parse_body (doc r : Item) (b : List Item) (ret : Option Item) (hr : isReturn r = true) :
    emitBody doc (b ++ [r]) ret = doc :: (b ++ [r]) := by
  unfold emitBody
  rw [endsWithReturn_snoc, hr]; simp

/-- a body without final return and no return in the description: unchanged -/
theorem emit_body_noreturn (doc : Item) (b : List Item) (h : endsWithReturn b = false) :
    emitBody doc b none = doc :: b := by
  unfold emitBody; simp [h]

theorem emit_body_addreturn (doc r : Item) (b : List Item) (h : endsWithReturn b = false) :
    emitBody doc b (some r) = doc :: (b ++ [r]) := by
  unfold emitBody; simp [h]

/-- the re-emitted function parses back to the same carried body (docstring skipped) -/
theorem parse_emit_body (doc r : Item) (b : List Item) (ret : Option Item)
    (hd : isDocExpr doc = true) (hr : isReturn r = true) :
    parseBody (emitBody doc (b ++ [r]) ret) = b ++ [r] := by
  rw [emit_parse_body doc r b ret hr]; simp [parseBody, hd]

/-- witness of the repaired defect: the description stores `return 'done'` as the text `done`, the old
    emitter re-created `return done` in place of the carried statement -/
theorem emitBodyOld_replaces_return (doc r r' : Item) (b : List Item) (hr : isReturn r = true) :
    emitBodyOld doc (b ++ [r]) (some r') = doc :: (b ++ [r']) := by
  unfold emitBodyOld; rw [endsWithReturn_snoc, hr]; simp

theorem emitBodyOld_eq (doc r : Item) (b : List Item) (hr : isReturn r = true) :
    emitBodyOld doc (b ++ [r]) (some r) = doc :: (b ++ [r]) :=
  emitBodyOld_replaces_return doc r r b hr

def selfAttr (name : Atom) : Node :=
  .mk "Attribute"
    [("value", .node (.mk "Name" [("id", .atom (.str "self")), ("ctx", .node (.mk "Load" [] none none none))] none none none)),
     ("attr", .atom name), ("ctx", .node (.mk "Load" [] none none none))] none none none

def idOf (fs : List (String × Field)) : Option Atom :=
  match fs.find? (·.1 == "id") with
  | some (_, Field.atom a) => some a
  | _ => none

/-- does `RewriteName(node_ids)` rewrite this `Name`? (`not self.node_ids or node.id in self.node_ids`) -/
def hits (ps : List Atom) (fs : List (String × Field)) : Bool :=
  ps.isEmpty || (match idOf fs with | some a => ps.contains a | none => false)

mutual
  def rwNode (ps : List Atom) : Node → Node
    | .mk k fs l i d =>
      if k == "Name" then
        (if hits ps fs then selfAttr ((idOf fs).getD .none)
         else .mk k (rwFields ps fs) l i d)
      else .mk k (rwFields ps fs) l i d
  def rwFields (ps : List Atom) : List (String × Field) → List (String × Field)
    | [] => []
    | (k, f) :: rest => (k, rwField ps f) :: rwFields ps rest
  def rwField (ps : List Atom) : Field → Field
    | .atom a => .atom a
    | .missing => .missing
    | .node n => .node (rwNode ps n)
    | .list items => .list (rwItems ps items)
  def rwItems (ps : List Atom) : List Item → List Item
    | [] => []
    | it :: rest => rwItem ps it :: rwItems ps rest
  def rwItem (ps : List Atom) : Item → Item
    | .node n => .node (rwNode ps n)
    | .atom a => .atom a
end

/-- the two tests of `rwNode` are one: exactly the condition `mentionsNode` looks for -/
theorem rwNode_eq (ps : List Atom) (k : String) (fs l i d) :
    rwNode ps (.mk k fs l i d) =
      if k == "Name" && hits ps fs then selfAttr ((idOf fs).getD .none) else .mk k (rwFields ps fs) l i d := by
  unfold rwNode
  cases k == "Name" <;> rfl

/-- no statement is dropped or duplicated by the rewriting -/
theorem rwItems_length (ps : List Atom) : ∀ its, (rwItems ps its).length = its.length
  | [] => rfl
  | _ :: rest => congrArg (· + 1) (rwItems_length ps rest)

/- does a sub-tree contain a `Name` the rewriting would hit -/
mutual
  def mentionsNode (ps : List Atom) : Node → Bool
    | .mk k fs _ _ _ => (k == "Name" && hits ps fs) || mentionsFields ps fs
  def mentionsFields (ps : List Atom) : List (String × Field) → Bool
    | [] => false
    | (_, f) :: rest => mentionsField ps f || mentionsFields ps rest
  def mentionsField (ps : List Atom) : Field → Bool
    | .atom _ => false
    | .missing => false
    | .node n => mentionsNode ps n
    | .list items => mentionsItems ps items
  def mentionsItems (ps : List Atom) : List Item → Bool
    | [] => false
    | it :: rest => mentionsItem ps it || mentionsItems ps rest
  def mentionsItem (ps : List Atom) : Item → Bool
    | .node n => mentionsNode ps n
    | .atom _ => false
end

/- **no other name is touched**: a sub-tree that mentions no parameter is returned unchanged -/
mutual
  theorem rwNode_frame (ps : List Atom) : ∀ n, mentionsNode ps n = false → rwNode ps n = n
    | .mk k fs l i d, h => by
      have ⟨hn, hf⟩ := Bool.or_eq_false_iff.mp h
      rw [rwNode_eq, hn, rwFields_frame ps fs hf]
      rfl
  theorem rwFields_frame (ps : List Atom) : ∀ fs, mentionsFields ps fs = false → rwFields ps fs = fs
    | [], _ => rfl
    | (k, f) :: rest, h => by
      have ⟨hf, hr⟩ := Bool.or_eq_false_iff.mp h
      rw [rwFields, rwField_frame ps f hf, rwFields_frame ps rest hr]
  theorem rwField_frame (ps : List Atom) : ∀ f, mentionsField ps f = false → rwField ps f = f
    | .atom _, _ => rfl
    | .missing, _ => rfl
    | .node n, h => congrArg Field.node (rwNode_frame ps n h)
    | .list items, h => congrArg Field.list (rwItems_frame ps items h)
  theorem rwItems_frame (ps : List Atom) : ∀ its, mentionsItems ps its = false → rwItems ps its = its
    | [], _ => rfl
    | it :: rest, h => by
      have ⟨hi, hr⟩ := Bool.or_eq_false_iff.mp h
      rw [rwItems, rwItem_frame ps it hi, rwItems_frame ps rest hr]
  theorem rwItem_frame (ps : List Atom) : ∀ it, mentionsItem ps it = false → rwItem ps it = it
    | .node n, h => congrArg Item.node (rwNode_frame ps n h)
    | .atom _, _ => rfl
end

/-- only `Name` nodes change class: every other node keeps its kind (keyword names, attribute names and
    every other non-node field are atoms and are copied as they are by `rwField`) -/
theorem rwNode_kind (ps : List Atom) (k : String) (fs l i d) (hk : (k == "Name") = false) :
    (rwNode ps (.mk k fs l i d)).kind = k := by
  rw [rwNode_eq, hk]; rfl

end Body
end PyAst
