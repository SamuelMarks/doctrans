import DT.RestParse
/-! C01 (ReST): every parameter has a name, one line of prose and a type, no defaults; with or without a return entry.
    `parseDocstringRest (emitDocstringRest ir) = ok ir`.
    The emitted text is described twice: as the parser cuts it (a token and its body: `paramBody`, `typeBody`, instances of
    `bodyOf`) and as the emitter writes it (one line: `docLine`, `typLine`, instances of `restLine`, in `RestLines`);
    `entry_segs` says that the lines of an entry are its segments (`entOf`, `entryLines`: also for the texts of `FuncDocRT`,
    where the `:type` line may be missing). -/
namespace Py

def paramBody (n d : Str) : Str := ' ' :: n ++ ':' :: ' ' :: d ++ ['\n']
def typeBody (n t : Str) : Str := ' ' :: n ++ ':' :: ' ' :: (bt3 ++ t ++ bt3) ++ ['\n', '\n']

def preOf (D : Str) : Str := '\n' :: D ++ ['\n', '\n']

def segsOf (ts : List Triple) : List (Str × Str) :=
  ts.flatMap fun x => [(tokParam, paramBody x.1 x.2.1), (tokType, typeBody x.1 x.2.2)]

/-- an entry as the texts carry it: the type on a `:type` line (`b = true`: one line break after the prose, `w` after the
    `:type` line) or not written (`w` after the prose) -/
def entOf (b : Bool) (w : Str) (x : Triple) : REntry :=
  ⟨x.1, x.2.1, if b then ['\n'] else w, if b then some (x.2.2, w) else none⟩

/-- what the parser reads back from it; `readBack true` is `entryOf`, by unfolding -/
def readBack (b : Bool) (x : Triple) : Str × Param := (x.1, { doc := some x.2.1, typ := if b then some x.2.2 else none })

theorem entOf_ok (b : Bool) {w : Str} (hw : AllWs w) {x : Triple} (hx : TripleOK x) : (entOf b w x).OK := by
  cases b
  · exact ⟨hx.1, hx.2.1, hw, by rintro tw ⟨⟩⟩
  · exact ⟨hx.1, hx.2.1, (by decide : AllWs ['\n']), by rintro tw ⟨⟩; exact ⟨hx.2.2, hw⟩⟩

/-- the last entry may have other white space behind it than the others -/
theorem entOf_oks (b : Bool) {w w' : Str} (hw : AllWs w) (hw' : AllWs w') {ts : List Triple} {l : Triple}
    (hok : ∀ x ∈ ts ++ [l], TripleOK x) : ∀ y ∈ ts.map (entOf b w) ++ [entOf b w' l], y.OK := by
  simp only [List.forall_mem_append, List.forall_mem_map, List.forall_mem_singleton] at hok ⊢
  exact ⟨fun x hx => entOf_ok b hw (hok.1 x hx), entOf_ok b hw' hok.2⟩

theorem entOf_names (b : Bool) (w w' : Str) (ts : List Triple) (l : Triple) :
    (ts.map (entOf b w) ++ [entOf b w' l]).map (·.n) = (ts ++ [l]).map (·.1) := by
  simp [entOf, Function.comp_def]

theorem entOf_entry (b : Bool) (w : Str) (x : Triple) : (entOf b w x).entry = readBack b x := by
  cases b <;> rfl

theorem entOf_entries (b : Bool) (w w' : Str) (ts : List Triple) (l : Triple) :
    (ts.map (entOf b w) ++ [entOf b w' l]).map REntry.entry = (ts ++ [l]).map (readBack b) := by
  simp [entOf_entry, Function.comp_def]

theorem segsOf_eq (ts : List Triple) : segsOf ts = (ts.map (entOf true ['\n', '\n'])).flatMap REntry.segs := by
  rw [segsOf, List.flatMap_map]; rfl

theorem pre_clean (D : Str) (hD : ncl D = true) : Clean restTokens (preOf D) :=
  ncl_clean (ncl_append_glue [] _ '\n' (by decide) (by decide) rfl (ncl_append_ws D ['\n', '\n'] hD (by decide)))

theorem parse_emitted (D : Str) (ts : List Triple) (l : Triple) (r : Option (Str × Str))
    (hDne : D ≠ []) (hDt : Trimmed D) (hDc : ncl D = true)
    (hok : ∀ x ∈ ts ++ [l], TripleOK x) (hnd : ((ts ++ [l]).map (·.1)).Nodup) (hr : RetOK r) :
    parseDocstringRest (preOf D ++ segText (segsOf (ts ++ [l]) ++ retSegsO r)) true = .ok (mkIRo D (ts ++ [l]) r) := by
  have := parseRest_entries (preOf D) (ts.map (entOf true ['\n', '\n'])) (entOf true ['\n', '\n'] l) r (pre_clean D hDc)
    (entOf_oks true (by decide) (by decide) hok) (by rw [entOf_names]; exact hnd) hr
  have hstrip : strip pyWs (preOf D) = D := by
    simpa [preOf] using hDt.strip_pad hDne ['\n'] ['\n', '\n'] (by decide) (by decide)
  have e : ts.map (entOf true ['\n', '\n']) ++ [entOf true ['\n', '\n'] l] = (ts ++ [l]).map (entOf true ['\n', '\n']) := by simp
  rw [hstrip, irOf, entOf_entries, e, ← segsOf_eq] at this
  exact this

#print axioms parse_emitted

/-- the lines of an entry and the white space behind them are its segments -/
theorem entry_segs (b : Bool) (w : Str) (x : Triple) :
    joinWith ['\n'] (entryLines b x) ++ w = segText (entOf b w x).segs := by
  cases b <;> simp [entryLines, entOf, REntry.segs, segText, docLine, typLine, bodyOf, joinWith, List.append_assoc]

/-- `emit_param_str` on a described, typed, default-free entry of any name, the return entry `return_type` included
    (`K1`, `K2`: the keys of its two lines): nothing indented, no default sentence added -/
theorem emitParamStrRest_plain (name d t K1 K2 : Str)
    (hK1 : (if name == retName then kReturns else kParam ++ name) = K1)
    (hK2 : (if name == retName then kRtype else kType ++ name) = K2) (h1 : '\n' ∉ K1) (h2 : '\n' ∉ K2)
    (hd : DocOK d) (ht : TypOK t) :
    emitParamStrRest name (mkParam d t) true =
      .ok (joinWith ['\n'] [restLine K1 d, restLine K2 (bt3 ++ t ++ bt3)], mkParam d t) := by
  have hsd : setDefaultDoc name (mkParam d t) true = .ok (mkParam d t) := by simp [setDefaultDoc, mkParam]
  have i1 := indent_doc K1 d h1 hd
  have i2 := indent_typ K2 t h2 ht
  unfold emitParamStrRest
  simp only [mkParam] at hsd ⊢
  simp only [List.isEmpty_eq_false_iff.mpr hd.ne, Bool.false_eq_true, if_false, hsd, Res.bind,
    List.isEmpty_eq_false_iff.mpr ht.ne, Option.toList_some, List.map_append, List.map_cons, List.map_nil, hK1, hK2]
  rw [show [':'] ++ K1 ++ [':', ' '] ++ d = restLine K1 d from rfl, restLine_ticks, i1, i2]
  rfl

def paramText (x : Triple) : Str := joinWith ['\n'] (entryLines true x)

theorem emitParams_ok (ts : List Triple) (hok : ∀ x ∈ ts, TripleOK x) :
    emitParamsRest (ts.map entryOf) true = .ok (ts.map paramText) := by
  induction ts with
  | nil => rfl
  | cons x ts ih =>
    have hx := hok x (by simp)
    have hret : ¬ (x.1 == retName) = true := by simpa using hx.1.notRet
    simp only [List.map_cons, emitParamsRest, entryOf]
    rw [emitParamStrRest_plain x.1 x.2.1 x.2.2 _ _ (if_neg hret) (if_neg hret) (hx.1.nl_key kParam (by decide))
      (hx.1.nl_key kType (by decide)) hx.2.1 hx.2.2, Res.bind, ih fun y hy => hok y (by simp [hy])]
    simp only [Res.bind, paramText, entryLines, if_true, docLine_eq, typLine_eq]

theorem segText_of_params (ts : List Triple) :
    ((ts.map paramText).map (· ++ ['\n', '\n'])).flatten = segText (segsOf ts) := by
  induction ts with
  | nil => rfl
  | cons x ts ih =>
    rw [segsOf_eq] at ih ⊢
    rw [List.map_cons, List.map_cons, List.flatten_cons, ih, List.map_cons, List.flatMap_cons, segText_append]
    exact congrArg (· ++ _) (entry_segs true _ x)

theorem retSegs_text (d t : Str) :
    segText (retSegs d t) = joinWith ['\n'] [restLine kReturns d, restLine kRtype (bt3 ++ t ++ bt3)] ++ ['\n'] := by
  simp [segText, retSegs, restLine, bodyOf, tokReturn, tokRtype, kReturns, kRtype, joinWith]

theorem emit_text (D : Str) (ts : List Triple) (r : Option (Str × Str)) (hne : ts ≠ []) (hok : ∀ x ∈ ts, TripleOK x)
    (hr : RetOK r) :
    emitDocstringRest (mkIRo D ts r) true = .ok (preOf D ++ segText (segsOf ts ++ retSegsO r)) := by
  have hj := joinWith_append_sep ['\n', '\n'] (ts.map paramText) (by simpa using hne)
  rw [segText_of_params] at hj
  unfold emitDocstringRest
  simp only [mkIRo, emitParams_ok ts hok, Res.bind]
  rw [segText_append, ← hj]
  cases r with
  | none => simp [preOf, retSegsO, retParam, segText]
  | some x =>
    simp only [retParam, Option.map_some]
    rw [← emit_consts_eq.1, emitParamStrRest_plain retName x.1 x.2 kReturns kRtype (if_pos (beq_self_eq_true _))
      (if_pos (beq_self_eq_true _)) (by decide) (by decide) (hr x rfl).1 (hr x rfl).2]
    simp only [retSegsO, retSegs_text, preOf, List.append_assoc, List.cons_append, List.nil_append]

/-- **C01 (ReST), default-free domain**: summary, ≥ 1 uniquely named parameters each with one line of prose and a type, no
    defaults, and possibly a return entry with one line of prose and a type: emit then parse is the identity, and
    raises nothing. The `:returns:` / `:rtype:` items do not flush the parameter being collected; the flush at the end of
    the parse phase does. -/
theorem C01_rest_partial (D : Str) (ts : List Triple) (l : Triple) (r : Option (Str × Str))
    (hDne : D ≠ []) (hDt : Trimmed D) (hDc : ncl D = true)
    (hok : ∀ x ∈ ts ++ [l], TripleOK x) (hnd : ((ts ++ [l]).map (·.1)).Nodup) (hr : RetOK r) :
    ((emitDocstringRest (mkIRo D (ts ++ [l]) r) true).bind fun text => parseDocstringRest text true)
      = .ok (mkIRo D (ts ++ [l]) r) := by
  rw [emit_text D (ts ++ [l]) r (by simp) hok hr]
  exact parse_emitted D ts l r hDne hDt hDc hok hnd hr

/-- **C01 (ReST) without a return entry, default-free domain**: a trimmed summary, ≥ 1 uniquely named parameters each
    with one line of prose and a type, no defaults: emit then parse is the identity, and raises nothing. -/
theorem C01_rest_nodefault_partial (D : Str) (ts : List Triple) (l : Triple)
    (hDne : D ≠ []) (hDt : Trimmed D) (hDc : ncl D = true)
    (hok : ∀ x ∈ ts ++ [l], TripleOK x) (hnd : ((ts ++ [l]).map (·.1)).Nodup) :
    ((emitDocstringRest (mkIR D (ts ++ [l])) true).bind fun text => parseDocstringRest text true)
      = .ok (mkIR D (ts ++ [l])) :=
  C01_rest_partial D ts l none hDne hDt hDc hok hnd (fun _ h => nomatch h)

#print axioms C01_rest_nodefault_partial

/-- **C01 (ReST) with a return entry, default-free domain**: a trimmed summary, ≥ 1 uniquely named parameters and a return
    entry, each with one line of prose and a type, no defaults: emit then parse is the identity and raises nothing - any
    number of parameters, texts of any length. -/
theorem C01_rest_return_partial (D : Str) (ts : List Triple) (l : Triple) (dr tr : Str)
    (hDne : D ≠ []) (hDt : Trimmed D) (hDc : ncl D = true)
    (hok : ∀ x ∈ ts ++ [l], TripleOK x) (hnd : ((ts ++ [l]).map (·.1)).Nodup)
    (hd : DocOK dr) (ht : TypOK tr) :
    ((emitDocstringRest (mkIRr D (ts ++ [l]) dr tr) true).bind fun text => parseDocstringRest text true)
      = .ok (mkIRr D (ts ++ [l]) dr tr) :=
  C01_rest_partial D ts l (some (dr, tr)) hDne hDt hDc hok hnd (fun _ h => by cases h; exact ⟨hd, ht⟩)

end Py
