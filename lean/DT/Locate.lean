import DT.Sig
/-! A generic `ast` tree and statement-by-statement Impl of
    `annotate_ancestry`, `find_in_ast`, `RewriteAtQuery`. `annotate` (with `modifyAt`, `getAt`) and `findInAst`
    are `partial`; the driver and the theorems use `findTotal` (`Find.lean`), the same statements with fuel, and
    `visit` is total by structural recursion. -/
namespace PyAst

inductive Atom where
  | none
  | str (s : String)
  | int (i : Int)
  | bool (b : Bool)
  | other (repr : String)
deriving Repr, BEq, DecidableEq, Inhabited

mutual
  inductive Node where
    | mk (kind : String) (fields : List (String × Field))
         (loc : Option (List Atom)) (idx : Option Int) (dflt : Option Item)
  inductive Field where
    | atom (a : Atom)
    | node (n : Node)
    | list (items : List Item)
    | missing
  inductive Item where
    | node (n : Node)
    | atom (a : Atom)
end

instance : Inhabited Node := ⟨.mk "?" [] none none none⟩
instance : Inhabited Item := ⟨.atom .none⟩

def Node.kind : Node → String | .mk k _ _ _ _ => k
def Node.fields : Node → List (String × Field) | .mk _ f _ _ _ => f
def Node.loc : Node → Option (List Atom) | .mk _ _ l _ _ => l
def Node.idx : Node → Option Int | .mk _ _ _ i _ => i
def Node.dflt : Node → Option Item | .mk _ _ _ _ d => d
def Node.setLoc (n : Node) (l : List Atom) : Node := match n with | .mk k f _ i d => .mk k f (some l) i d
def Node.setIdx (n : Node) (j : Int) : Node := match n with | .mk k f l _ d => .mk k f l (some j) d
def Node.setDflt (n : Node) (x : Item) : Node := match n with | .mk k f l i _ => .mk k f l i (some x)
def Node.setFields (n : Node) (f : List (String × Field)) : Node := match n with | .mk k _ l i d => .mk k f l i d

def Node.field? (n : Node) (name : String) : Option Field := (n.fields.find? (·.1 == name)).map (·.2)
def Node.setField (n : Node) (name : String) (v : Field) : Node :=
  n.setFields (n.fields.map fun (k, f) => if k == name then (k, v) else (k, f))

def Node.atomField (n : Node) (name : String) : Option Atom :=
  match n.field? name with | some (.atom a) => some a | _ => none
def Node.nodeField (n : Node) (name : String) : Option Node :=
  match n.field? name with | some (.node m) => some m | _ => none
def Node.listField (n : Node) (name : String) : List Item :=
  match n.field? name with | some (.list l) => l | _ => []
def Node.nodesOf (n : Node) (name : String) : List Node :=
  (n.listField name).filterMap fun | .node m => some m | _ => none

/-- classes whose instances have a `name` attribute on 3.12 (as far as the generators reach) -/
def hasNameKinds : List String := ["FunctionDef", "AsyncFunctionDef", "ClassDef", "ExceptHandler", "alias", "MatchAs", "MatchStar"]
def Node.hasName (n : Node) : Bool := hasNameKinds.contains n.kind && (n.field? "name").isSome
def Node.name (n : Node) : Atom := (n.atomField "name").getD .none

/-- `ast.iter_child_nodes` -/
def Node.children (n : Node) : List Node :=
  n.fields.flatMap fun (_, f) =>
    match f with
    | .node m => [m]
    | .list l => l.filterMap fun | .node m => some m | _ => none
    | _ => []

abbrev Path := List Nat      -- position among `children`, from the root

/-- replace the node at `path` (indices into `children` order) by `f node` -/
partial def Node.modifyAt (n : Node) (path : Path) (f : Node → Node) : Node :=
  match path with
  | [] => f n
  | i :: rest =>
    -- walk fields, counting child nodes
    let rec go (fields : List (String × Field)) (seen : Nat) : List (String × Field) :=
      match fields with
      | [] => []
      | (k, .node m) :: fs =>
        if seen == i then (k, .node (m.modifyAt rest f)) :: fs else (k, .node m) :: go fs (seen + 1)
      | (k, .list l) :: fs =>
        let cnt := (l.filter fun | .node _ => true | _ => false).length
        if i < seen + cnt then
          let rec goL (items : List Item) (s : Nat) : List Item :=
            match items with
            | [] => []
            | .node m :: r => if s == i then .node (m.modifyAt rest f) :: r else .node m :: goL r (s + 1)
            | a :: r => a :: goL r s
          (k, .list (goL l seen)) :: fs
        else (k, .list l) :: go fs (seen + cnt)
      | kf :: fs => kf :: go fs seen
    n.setFields (go n.fields 0)

partial def Node.getAt (n : Node) (path : Path) : Option Node :=
  match path with
  | [] => some n
  | i :: rest => match n.children[i]? with | some c => c.getAt rest | none => none

def getValueConst (n : Node) : Atom :=
  match n.atomField "value" with
  | some .none => .str "```(None)```"
  | some a => a
  | none => .none

def isSelfCls (n : Node) : Bool :=
  match (n.nodesOf "args").head? with
  | some a => a.atomField "arg" == some (.str "self") || a.atomField "arg" == some (.str "cls")
  | none => false

/-- annotate the `arguments` child of a FunctionDef whose location is `floc` -/
def annotateArgs (fn : Node) (floc : List Atom) : Node :=
  match fn.nodeField "args" with
  | none => fn
  | some args =>
    let start : Int := if isSelfCls args then -1 else 0
    let ann (items : List Item) (from_ : Int) : List Item :=
      (items.foldl (fun (acc : List Item × Int) it =>
        match it with
        | .node a => (acc.1 ++ [.node ((a.setIdx acc.2).setLoc (floc ++ [(a.atomField "arg").getD .none]))], acc.2 + 1)
        | x => (acc.1 ++ [x], acc.2)) ([], from_)).1
    let args := args.setField "args" (.list (ann (args.listField "args") start))
    let args := args.setField "kwonlyargs" (.list (ann (args.listField "kwonlyargs") 0))
    fn.setField "args" (.node args)

/-- `annotate_ancestry(node)`: BFS over paths; state = tree being updated + `parent_location` -/
partial def annotate (root : Node) : Node :=
  let root := root.setLoc (if root.hasName then [root.name] else [])
  let rec loop (tree : Node) (queue : List Path) (parentLoc : List Atom) : Node :=
    match queue with
    | [] => tree
    | p :: rest =>
      match tree.getAt p with
      | none => loop tree rest parentLoc
      | some cur =>
        let nm : List Atom := if cur.hasName then [cur.name] else []
        let kids := cur.children
        let (tree, parentLoc, _) := kids.foldl (fun (acc : Node × List Atom × Nat) child =>
          let (tree, pl, i) := acc
          let cp := p ++ [i]
          let (child', pl') : Node × List Atom :=
            if child.hasName && child.kind != "alias" then
              let l := nm ++ [child.name]; (child.setLoc l, l)
            else if child.kind == "Constant" then (child.setLoc (pl ++ [getValueConst child]), pl)
            else if child.kind == "Assign" && (child.listField "targets").all (fun | .node t => t.kind == "Name" | _ => false) then
              match (child.nodesOf "targets").getLast? with
              | some t => (child.setLoc (nm ++ [(t.atomField "id").getD .none]), pl)
              | none => (child, pl)
            else if child.kind == "AnnAssign" && ((child.nodeField "target").map (·.kind)) == some "Name" then
              (child.setLoc (nm ++ [((child.nodeField "target").bind (·.atomField "id")).getD .none]), pl)
            else (child, pl)
          let child'' := if child'.kind == "FunctionDef" then annotateArgs child' (child'.loc.getD []) else child'
          (tree.modifyAt cp (fun _ => child''), pl', i + 1)) (tree, parentLoc, 0)
        loop tree (rest ++ (List.range kids.length).map (fun i => p ++ [i])) parentLoc
  loop root [[]] []

/-! ### find_in_ast -/

inductive Found where
  | node (n : Node)
  | none
  | raises (k : String)
deriving Inhabited

def bodyOf (n : Node) : Option (List Item) :=
  match n.field? "body" with | some (.list l) => some l | _ => Option.none

/-- statement-by-statement `find_in_ast(search, node)` -/
partial def findInAst (search : List Atom) (node : Node) : Found :=
  if search.isEmpty || node.loc == some search then .node node else
  match bodyOf node with
  | Option.none => .raises "AttributeError"
  | some body0 =>
    -- state: child_node, cursor (a list of items, or an `arg` node after a match), current_search
    let rec whileLoop (childNode : Node) (cursor : Sum (List Item) Node) (cs : List Atom) : Found :=
      match cs with
      | [] => .none
      | query :: cs =>
        if cs.isEmpty && childNode.hasName && childNode.name == query then .node childNode else
        match cursor with
        | .inr _ => .raises "TypeError"        -- `for child_node in cursor` over an `arg`
        | .inl items =>
          let rec forLoop (items : List Item) (childNode : Node) (cursor : Sum (List Item) Node)
              (query : Atom) (cs : List Atom) : Found :=
            match items with
            | [] => whileLoop childNode cursor cs
            | .atom _ :: _ => .raises "AttributeError"
            | .node ch :: rest =>
              if ch.loc == some search then .node ch
              else if ch.kind == "FunctionDef" then
                let (query, cs) := match cs with | q :: cs' => (q, cs') | [] => (query, cs)
                let args := ((ch.nodeField "args").map (·.nodesOf "args")).getD []
                let defaults := ((ch.nodeField "args").map (·.listField "defaults")).getD []
                match (args.zipIdx).find? (fun (a, _) => a.atomField "arg" == some query) with
                | some (a, i) =>
                  let a := if defaults.length > i then (match defaults[i]? with | some d => a.setDflt d | Option.none => a) else a
                  if cs.isEmpty then .node a else forLoop rest ch (.inr a) query cs
                | Option.none => forLoop rest ch cursor query cs
              else if ch.kind == "AnnAssign" && ((ch.nodeField "target").map (·.kind)) == some "Name"
                      && ((ch.nodeField "target").bind (·.atomField "id")) == some query then .node ch
              else if ch.hasName && ch.name == query then
                match bodyOf ch with
                | some b => whileLoop ch (.inl b) cs       -- `cursor = child_node.body; break`
                | Option.none => .raises "AttributeError"
              else forLoop rest ch cursor query cs
          forLoop items childNode cursor query cs
    whileLoop node (.inl body0) search

end PyAst

namespace PyAst

/-! ### RewriteAtQuery -/

structure RW where
  search : List Atom
  repl : Node
  replaced : Bool := false
  err : Option String := none

def mkArg (name : Atom) (ann : Field) : Node :=
  .mk "arg" [("arg", .atom name), ("annotation", ann), ("type_comment", .atom .none)] none none none

/-- `emit_arg(node)` -/
def emitArg (n : Node) : Except String Node :=
  if n.kind == "arg" then .ok n
  else if n.kind == "AnnAssign" && ((n.nodeField "target").map (·.kind)) == some "Name" then
    .ok (mkArg (((n.nodeField "target").bind (·.atomField "id")).getD .none) ((n.field? "annotation").getD (.atom .none)))
  else if n.kind == "Assign" && (n.listField "targets").length == 1
          && ((n.nodesOf "targets").head?.map (·.kind)) == some "Name" then
    .ok (mkArg (((n.nodesOf "targets").head?.bind (·.atomField "id")).getD .none) (.atom .none))
  else .error "NotImplementedError"

/-- Python list assignment `l[i] = v` with negative indices -/
def listSet (l : List Item) (i : Int) (v : Item) : Option (List Item) :=
  let j : Int := if i < 0 then i + l.length else i
  if j < 0 || j ≥ l.length then none else some (l.set j.toNat v)

def visitFunctionDefRaw (st : RW) (node : Node) : RW × Node :=
  let searchInit := st.search.take (st.search.length - 1)
  if !st.replaced && node.loc == some searchInit then
    match node.nodeField "args" with
    | none => ({ st with err := some "AttributeError" }, node)
    | some args =>
      -- phase 1: AnnAssign / Assign replacement nodes are turned into an `arg`, defaults patched
      let phase1 : Except String (RW × Node) :=
        if st.repl.kind == "AnnAssign" || st.repl.kind == "Assign" then
          let argsL := args.nodesOf "args"
          let (idx, repl1) : Option Int × Node :=
            if st.repl.kind == "AnnAssign" then
              -- (fix: the default slot of the ADDRESSED argument - not of one named like the replacement -, counted
              -- from the right: `pos - (len(args) - len(defaults))`, none when negative)
              let nd : Nat := (args.listField "defaults").length
              let slot : Option Int := ((argsL.zipIdx).find? (fun (a, _) => a.loc == some st.search)).bind
                (fun (_, pos) => (Py.Sig.slotOf argsL.length nd pos).map Int.ofNat)     -- `Sig.pyDefault_set`
              (slot, st.repl)
            else
              let cands : List Int := (st.repl.nodesOf "targets").flatMap fun t =>
                (argsL.filter (·.idx.isSome)).filterMap fun a =>
                  if a.atomField "arg" == t.atomField "id" then a.idx else none
              ((cands.find? (· != 0)),       -- `filter(None, …)` drops index 0
               mkArg (((st.repl.nodesOf "targets").head?.bind (·.atomField "id")).getD .none)
                     ((st.repl.field? "value").getD (.atom .none)))
          let defaults := args.listField "defaults"
          let args1 : Except String Node :=
            match idx with
            | some i =>
              if (defaults.length : Int) > i then
                -- `get_value(replacement_node)`
                let newDefault : Option Item :=
                  if repl1.kind == "AnnAssign" then
                    match repl1.field? "value" with
                    | some (.node v) => some (.node v)
                    | some (.atom .none) => some (.atom (.str "```(None)```"))
                    | _ => none
                  else some (.node repl1)
                match newDefault with
                | some nd =>
                  match listSet defaults i nd with
                  | some d' => .ok (args.setField "defaults" (.list d'))
                  | none => .error "IndexError"
                | none => .ok args
              else .ok args
            | none => .ok args
          match args1, emitArg repl1 with
          | .ok a, .ok r => .ok ({ st with repl := r }, node.setField "args" (.node a))
          | .error e, _ => .error e
          | _, .error e => .error e
        else .ok (st, node)
      match phase1 with
      | .error e => ({ st with err := some e }, node)
      | .ok (st, node) =>
        if st.repl.kind != "arg" then ({ st with err := some "AssertionError" }, node) else
        let args := (node.nodeField "args").getD default
        let replaceIn (items : List Item) : List Item × Bool :=
          items.foldl (fun (acc : List Item × Bool) it =>
            match it with
            | .node a => if !acc.2 && a.loc == some st.search then (acc.1 ++ [.node st.repl], true) else (acc.1 ++ [it], acc.2)
            | _ => (acc.1 ++ [it], acc.2)) ([], false)
        let (a1, r1) := replaceIn (args.listField "args")
        let (a2, r2) := replaceIn (args.listField "kwonlyargs")
        let args := (args.setField "args" (.list a1)).setField "kwonlyargs" (.list a2)
        ({ st with replaced := st.replaced || r1 || r2 }, node.setField "args" (.node args))
  else (st, node)

/-- `RewriteAtQuery.visit_FunctionDef`; `self.search` is never assigned by the Python, which the
    wrapper makes syntactically evident (the raw function only ever copies it). -/
def visitFunctionDef (st : RW) (node : Node) : RW × Node :=
  let r := visitFunctionDefRaw st node
  ({ r.1 with search := st.search }, r.2)

/-! `NodeTransformer.visit` / `generic_visit`, total by mutual structural recursion over the nested
    inductive. `visit_FunctionDef` does not descend (the Python returns `node` without calling
    `generic_visit`), so nothing below a `FunctionDef` is ever visited. -/
mutual
  def visit (st : RW) : Node → RW × Node
    | .mk k fs l i d =>
      if st.err.isSome then (st, .mk k fs l i d)
      else if k == "FunctionDef" then visitFunctionDef st (.mk k fs l i d)
      -- (fix: a string constant carries a location too; it is never what a search addresses)
      else if !st.replaced && l == some st.search && k != "Constant" then ({ st with replaced := true }, st.repl)
      else
        let (st', fs') := visitFields st fs
        (st', .mk k fs' l i d)
  def visitFields (st : RW) : List (String × Field) → RW × List (String × Field)
    | [] => (st, [])
    | (k, f) :: rest =>
      let (st1, f') := visitField st f
      let (st2, rest') := visitFields st1 rest
      (st2, (k, f') :: rest')
  def visitField (st : RW) : Field → RW × Field
    | .atom a => (st, .atom a)
    | .missing => (st, .missing)
    | .node n => let (s, n') := visit st n; (s, .node n')
    | .list items => let (s, items') := visitItems st items; (s, .list items')
  def visitItems (st : RW) : List Item → RW × List Item
    | [] => (st, [])
    | it :: rest =>
      let (st1, it') := visitItem st it
      let (st2, rest') := visitItems st1 rest
      (st2, it' :: rest')
  def visitItem (st : RW) : Item → RW × Item
    | .node n => let (s, n') := visit st n; (s, .node n')
    | .atom a => (st, .atom a)
end

end PyAst
