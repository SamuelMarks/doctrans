import DT.ClassAttr
import DT.KindsTheorems
/-! `attrRT` (statement level) agrees with `Kinds.normClassParam` (interface level) on the typed,
    literal-default part of the class domain. The parser half is computed once (`attrRT_of_const`, `attrRT_of_none`);
    six staged theorems by shape of the declared type and of the default say what the emitter writes, and
    `attrRT_eq_norm` collects them. -/
namespace Py
namespace ClassAttr
open Kinds

def quoteDelimited (s : Str) : Bool :=
  match s.head?, s.getLast? with
  | some a, some b => a == b && quoteChar a
  | _, _ => false

/-- a string default the class kind carries verbatim -/
def strOk (s : Str) : Prop :=
  s ≠ [] ∧ quoteDelimited s = false ∧ s ≠ sNone ∧ s ≠ noneStr ∧ codeQuoted s = false

def numOk : Val → Prop
  | .bool _ => True
  | .int _ _ => True
  | .float _ => True
  | _ => False

/-- `set_value` and the un-quoting of `_infer_default` look at the two ends of a string in the same way: a string
    that is not between quote marks falls through, whatever the length test says -/
theorem matchEnds_plain {α : Type} (s : Str) (hq : quoteDelimited s = false) (c : Bool) (x y : α) :
    (match s.head?, s.getLast? with
      | some a, some b => if (c && a == b && quoteChar a) = true then x else y
      | _, _ => y) = y := by
  unfold quoteDelimited at hq
  cases hh : s.head? with
  | none => simp
  | some a =>
    cases hl : s.getLast? with
    | none => simp
    | some b =>
      rw [hh, hl] at hq
      simp only at hq
      simp only [Bool.and_assoc, hq, Bool.and_false, Bool.false_eq_true, if_false]

theorem setValue_plain (s : Str) (hq : quoteDelimited s = false) : setValue (.str s) = .str s :=
  matchEnds_plain s hq _ _ _

theorem unquote_plain (s : Str) (hq : quoteDelimited s = false) : unquote s = s :=
  matchEnds_plain s hq _ _ _

theorem quote_plain (s : Str) (hne : s ≠ []) (hq : quoteDelimited s = false) : quote s = ['"'] ++ s ++ ['"'] := by
  cases s with
  | nil => exact absurd rfl hne
  | cons c t =>
    have hl : (c :: t).getLast? = some ((c :: t).getLast (by simp)) := List.getLast?_eq_some_getLast (by simp)
    unfold quote
    rw [hl]
    simp only
    have : ((c == (c :: t).getLast (by simp)) && (c == '\'' || c == '"')) = false := by
      unfold quoteDelimited at hq
      rw [hl] at hq
      simp only [List.head?_cons] at hq
      unfold quoteChar at hq
      rw [Bool.or_comm] at hq
      exact hq
    simp [this]

theorem setValue_quoted (s : Str) (hne : s ≠ []) : setValue (.str (['"'] ++ s ++ ['"'])) = .str s := by
  have hlen : 0 < s.length := List.length_pos_iff.mpr hne
  have hl : (['"'] ++ s ++ ['"']).getLast? = some '"' := List.getLast?_concat ..
  simp only [setValue, hl]
  simp [quoteChar, hlen]

/-- a constant that `parse.class_` and `_infer_default` hand back as it is -/
def Carried : Val → Prop
  | .str s => quoteDelimited s = false ∧ s ≠ sNone ∧ s ≠ noneStr ∧ codeQuoted s = false
  | .none => False
  | _ => True

theorem carried_num (v : Val) (h : numOk v) : Carried v := by cases v <;> first | trivial | exact h.elim

theorem carried_str (s : Str) (h : strOk s) : Carried (.str s) := h.2

/-- `x in none_types` is written out in `_infer_default` and in `Kinds`: one test -/
theorem isNoneType_eq : isNoneType = isNoneVal := by funext v; cases v <;> rfl

theorem isNoneVal_carried (v : Val) (h : Carried v) : isNoneVal v = false := by
  cases v with
  | str s => simp [isNoneVal, h.2.1, h.2.2.1]
  | none => exact h.elim
  | _ => rfl

theorem setValue_carried (v : Val) (h : Carried v) : setValue v = v := by
  cases v <;> first | exact setValue_plain _ h.1 | exact h.elim | rfl

theorem inferDefault_carried (t : Str) (q : Bool) (v : Val) (hq : needsQuoting (some t) = .ok q) (hv : Carried v) :
    inferDefault (some t) v = .ok (some t, v) := by
  unfold inferDefault
  simp only [isNoneType_eq, isNoneVal_carried v hv, Bool.false_eq_true, if_false, hq, Res.bind]
  cases v with
  | str s => simp only [unquote_plain s hv.1, hv.2.2.2, Bool.false_and]; rfl
  | none => exact hv.elim
  | _ => simp

theorem inferDefault_noneStr (t : Str) (q : Bool) (hq : needsQuoting (some t) = .ok q) :
    inferDefault (some t) (.str noneStr) = .ok (some t, .str noneStr) := by
  unfold inferDefault
  have h1 : isNoneType (.str noneStr) = true := by simp [isNoneType]
  have h2 : unquote noneStr = noneStr := by decide
  simp only [h1, if_true, hq, Res.bind, h2]
  simp

/-- an emitted constant that is carried comes back as the default (`hq`, here and below: `needs_quoting` answers, whatever
    it answers - `_infer_default` calls it and only an exception would matter) -/
theorem attrRT_of_const (p : Param) (t : Str) (q : Bool) (v : Val) (he : param2ast p = .ok ⟨t, .const v⟩)
    (hq : needsQuoting (some t) = .ok q) (hv : Carried v) :
    attrRT p = .ok { p with typ := some t, default := some v } := by
  have hp : attrParse ⟨t, .const v⟩ = .ok (t, v) := by
    unfold attrParse; cases v <;> first | rfl | exact hv.elim
  unfold attrRT
  rw [he]
  simp only [Res.bind, hp, inferDefault_carried t q v hq hv]

/-- an emitted `None` comes back as the code-quoted None -/
theorem attrRT_of_none (p : Param) (t : Str) (q : Bool) (he : param2ast p = .ok ⟨t, .const .none⟩)
    (hq : needsQuoting (some t) = .ok q) :
    attrRT p = .ok { p with typ := some t, default := some vNoneStr } := by
  unfold attrRT
  rw [he]
  simp only [Res.bind, show attrParse ⟨t, .const .none⟩ = .ok (t, .str noneStr) from rfl, inferDefault_noneStr t q hq]
  rfl

/-! ### the emitter, by shape of the declared type and of the default: each proof runs `param2ast` down the one
    branch its hypotheses select -/

def noDefault (p : Param) : Prop := p.default = none ∨ p.default = some .none ∨ p.default = some (.str noneStr)

theorem setValue_zeroOf (t : Str) : setValue (zeroOf t) = zeroOf t := by
  rcases zeroOf_cases t with h | h | h | h <;> rw [h] <;> rfl

/-- **scalar, not str** (`int`, `float`, `bool`): without a default the attribute gets the zero value of the type -/
theorem attrRT_scalar_nodefault (p : Param) (t : Str) (ht : p.typ = some t) (hq : needsQuoting (some t) = .ok false)
    (hs : isScalar t = true) (hz : numOk (zeroOf t)) (hd : noDefault p) :
    attrRT p = .ok { p with typ := some t, default := some (zeroOf t) } := by
  refine attrRT_of_const p t false (zeroOf t) ?_ hq (carried_num _ hz)
  unfold param2ast
  rw [ht]
  rcases hd with h | h | h <;> simp [h, hq, Res.bind, hs, truthy, setValue_zeroOf]

/-- … and a truthy literal is kept -/
theorem attrRT_scalar_literal (p : Param) (t : Str) (v : Val) (ht : p.typ = some t)
    (hq : needsQuoting (some t) = .ok false) (hs : isScalar t = true) (hv : numOk v) (htr : truthy v = true)
    (hd : p.default = some v) :
    attrRT p = .ok { p with typ := some t, default := some v } := by
  refine attrRT_of_const p t false v ?_ hq (carried_num v hv)
  unfold param2ast
  rw [ht, hd]
  cases v <;> first | exact hv.elim | simp [hq, Res.bind, hs, htr, setValue]

/-- **str-like types** (`str`, `Optional[str]`, `Literal['a', 'b']`, …): a plain string default is quoted by
    `quote`, unquoted by `set_value` and comes back verbatim -/
theorem attrRT_strlike_literal (p : Param) (t s : Str) (ht : p.typ = some t) (hq : needsQuoting (some t) = .ok true)
    (hs : strOk s) (hd : p.default = some (.str s)) :
    attrRT p = .ok { p with typ := some t, default := some (.str s) } := by
  refine attrRT_of_const p t true (.str s) ?_ hq (carried_str s hs)
  unfold param2ast
  rw [ht, hd]
  simpa [hq, Res.bind, hs.2.2.2.1, truthy, hs.1, quote_plain s hs.1 hs.2.1] using setValue_quoted s hs.1

theorem needsQuoting_str : needsQuoting (some tStr) = .ok true := by decide

theorem attrRT_str_nodefault (p : Param) (ht : p.typ = some tStr) (hd : noDefault p) :
    attrRT p = .ok { p with typ := some tStr, default := some (.str []) } := by
  refine attrRT_of_const p tStr true (.str []) ?_ needsQuoting_str ⟨rfl, by decide, by decide, rfl⟩
  have hz : (simpleZero tStr).getD .none = .str [] := by decide
  unfold param2ast
  rw [ht]
  rcases hd with h | h | h <;> simp [h, needsQuoting_str, Res.bind, truthy, hz, setValue]

/-- str-like but not `str` itself, and every other non-scalar type: without a default the attribute is `None`,
    read back as `NoneStr` -/
theorem attrRT_nonscalar_nodefault (p : Param) (t : Str) (q : Bool) (ht : p.typ = some t)
    (hq : needsQuoting (some t) = .ok q) (hs : isScalar t = false)
    (hdict : (t == tDict || startsWith t ['*']) = false) (hd : noDefault p) :
    attrRT p = .ok { p with typ := some t, default := some vNoneStr } := by
  refine attrRT_of_none p t q ?_ hq
  have hz : (simpleZero t).getD .none = .none := by simp [simpleZero, hs]
  unfold param2ast
  rw [ht]
  cases q <;> rcases hd with h | h | h <;> simp [h, hq, Res.bind, hs, hdict, truthy, hz, setValue]

/-- a generic type that does not mention `str` (`Optional[int]`, `List[float]`, a dotted name): a numeric or
    boolean default is kept whatever its truthiness -/
theorem attrRT_generic_literal (p : Param) (t : Str) (v : Val) (ht : p.typ = some t)
    (hq : needsQuoting (some t) = .ok false) (hs : isScalar t = false)
    (hdict : (t == tDict || startsWith t ['*']) = false) (hv : numOk v) (hd : p.default = some v) :
    attrRT p = .ok { p with typ := some t, default := some v } := by
  refine attrRT_of_const p t false v ?_ hq (carried_num v hv)
  unfold param2ast
  rw [ht, hd]
  cases v <;> first | exact hv.elim | simp [hq, Res.bind, hs, hdict, setValue]

theorem with_typ_default (p : Param) (t : Str) (v : Val) (ht : p.typ = some t) (hd : p.default = some v) :
    ({ p with typ := some t, default := some v } : Param) = p := by
  cases p; simp_all

theorem with_typ (p : Param) (t : Str) (v : Val) (ht : p.typ = some t) :
    ({ p with typ := some t, default := some v } : Param) = { p with default := some v } := by
  cases p; simp_all

theorem fillWith_literal (f g : Param → Param) (p : Param) (t : Str) (v : Val) (ht : p.typ = some t)
    (hd : p.default = some v) (hv : Carried v) :
    fillWith f g p = { p with typ := some t, default := some v } := by
  rw [fillWith_explicit f g p v hd (isNoneVal_carried v hv), with_typ_default p t v ht hd]

theorem normClass_noDefault (p : Param) (t : Str) (ht : p.typ = some t) (hd : noDefault p) :
    normClassParam p = { p with typ := some t, default := some (if isScalar t then zeroOf t else vNoneStr) } := by
  rw [normClassParam_eq, fillWith_noValue classFill p hd, classFill_eq, with_typ p t _ ht, ht]

/-- the typed, literal-default part of the class domain, by shape of type and default -/
inductive AttrDom (p : Param) : Prop where
  | scalarNoDefault (t : Str) (ht : p.typ = some t) (hq : needsQuoting (some t) = .ok false)
      (hs : isScalar t = true) (hz : numOk (zeroOf t)) (hd : noDefault p)
  | scalarLiteral (t : Str) (v : Val) (ht : p.typ = some t) (hq : needsQuoting (some t) = .ok false)
      (hs : isScalar t = true) (hv : numOk v) (htr : truthy v = true) (hd : p.default = some v)
  | strLiteral (t s : Str) (ht : p.typ = some t) (hq : needsQuoting (some t) = .ok true) (hs : strOk s)
      (hd : p.default = some (.str s))
  | strNoDefault (ht : p.typ = some tStr) (hd : noDefault p)
  | nonScalarNoDefault (t : Str) (q : Bool) (ht : p.typ = some t) (hq : needsQuoting (some t) = .ok q)
      (hs : isScalar t = false) (hdict : (t == tDict || startsWith t ['*']) = false) (hd : noDefault p)
  | genericLiteral (t : Str) (v : Val) (ht : p.typ = some t) (hq : needsQuoting (some t) = .ok false)
      (hs : isScalar t = false) (hdict : (t == tDict || startsWith t ['*']) = false) (hv : numOk v)
      (hd : p.default = some v)

/-- **the class kind's attribute round trip, derived from the statements of `param2ast`, `parse.class_` and
    `_infer_default`, is the interface-level normalisation `Kinds.normClassParam`** -/
theorem attrRT_eq_norm (p : Param) (h : AttrDom p) : attrRT p = .ok (normClassParam p) := by
  cases h with
  | scalarNoDefault t ht hq hs hz hd =>
    rw [attrRT_scalar_nodefault p t ht hq hs hz hd, normClass_noDefault p t ht hd, hs]; rfl
  | scalarLiteral t v ht hq hs hv htr hd =>
    rw [attrRT_scalar_literal p t v ht hq hs hv htr hd, normClassParam_eq,
      fillWith_literal classFill classFill p t v ht hd (carried_num v hv)]
  | strLiteral t s ht hq hs hd =>
    rw [attrRT_strlike_literal p t s ht hq hs hd, normClassParam_eq,
      fillWith_literal classFill classFill p t _ ht hd (carried_str s hs)]
  | strNoDefault ht hd =>
    rw [attrRT_str_nodefault p ht hd, normClass_noDefault p tStr ht hd]; rfl
  | nonScalarNoDefault t q ht hq hs hdict hd =>
    rw [attrRT_nonscalar_nodefault p t q ht hq hs hdict hd, normClass_noDefault p t ht hd, hs]; rfl
  | genericLiteral t v ht hq hs hdict hv hd =>
    rw [attrRT_generic_literal p t v ht hq hs hdict hv hd, normClassParam_eq,
      fillWith_literal classFill classFill p t v ht hd (carried_num v hv)]

/-! non-vacuity: concrete entries of every shape -/

theorem needsQuoting_int : needsQuoting (some tInt) = .ok false := by decide +kernel

theorem needsQuoting_optional_int : needsQuoting (some "Optional[int]".toList) = .ok false := by
  rw [String.toList_ofList]; decide +kernel

example : AttrDom { doc := some ['x'], typ := some tInt, default := none } :=
  .scalarNoDefault tInt rfl needsQuoting_int rfl (show numOk (.int false ['0']) from trivial) (Or.inl rfl)
example : AttrDom { doc := some ['x'], typ := some tInt, default := some (.int true ['3']) } :=
  .scalarLiteral tInt (.int true ['3']) rfl needsQuoting_int rfl trivial rfl rfl
example : AttrDom { doc := some ['x'], typ := some tStr, default := some (.str ['m', 'n']) } :=
  .strLiteral tStr ['m', 'n'] rfl needsQuoting_str ⟨by decide, rfl, by decide, by decide, rfl⟩ rfl
example : AttrDom { doc := some ['x'], typ := some tStr, default := some .none } :=
  .strNoDefault rfl (Or.inr (Or.inl rfl))
example : AttrDom { doc := some ['x'], typ := some "Optional[int]".toList, default := some (.str noneStr) } :=
  .nonScalarNoDefault "Optional[int]".toList false rfl needsQuoting_optional_int
    (by rw [String.toList_ofList]; decide) (by rw [String.toList_ofList]; decide) (Or.inr (Or.inr rfl))
example : AttrDom { doc := some ['x'], typ := some "Optional[int]".toList, default := some (.int false ['0']) } :=
  .genericLiteral "Optional[int]".toList (.int false ['0']) rfl needsQuoting_optional_int
    (by rw [String.toList_ofList]; decide) (by rw [String.toList_ofList]; decide) trivial rfl

end ClassAttr
end Py
