import DT.StrLemmas
/-! C08 at statement level: the normalising step every parser ends with, `_set_name_and_type`, is idempotent on a
    default-free entry - its prose normalisation (`" ".join(map(str.strip, doc.split("\n"))).rstrip()`), its
    `, optional` rewriting and its `Optional[...]` wrapping change nothing when applied to their own result. (With a
    default, `_infer_default` strips one pair of quotes per pass: that part is NOT idempotent in general and is not
    claimed.) -/
namespace Py
namespace SetNameIdem

theorem no_sep_sublist {sep : Char} {p s q : Str} (h : sep ∉ p ++ s ++ q) : sep ∉ s := by
  intro hm; exact h (by simp [hm])

theorem unwrapProse_shape (d : Str) (c : Char) (hc : d.head? = some c) (hw : pyWs.contains c = false) :
    '\n' ∉ unwrapProse d ∧ Trimmed (unwrapProse d) ∧ unwrapProse d ≠ [] := by
  obtain ⟨t, rfl⟩ := List.head?_eq_some_iff.mp hc
  have hnl : c ≠ '\n' := by rintro rfl; exact absurd hw (by decide)
  obtain ⟨h, r, _, hsplit⟩ := splitOnChar_cons_ne '\n' c t hnl
  have hpieces := splitOnChar_pieces '\n' (c :: t)
  -- no line break: every character of the result comes from a piece of the split, or is the blank
  have hno : '\n' ∉ unwrapProse (c :: t) := fun hm =>
    not_mem_joinWith (by decide) (List.forall_mem_map.mpr fun l0 hl0 h => hpieces l0 hl0 ((strip_infix pyWs l0).subset h))
      ((stripRight_prefix pyWs _).subset hm)
  -- the first line keeps its first character, and so does the whole
  have hfirst : unwrapProse (c :: t) = c :: stripRight pyWs
      (stripRight pyWs h ++ ((r.map (strip pyWs)).map ([' '] ++ ·)).flatten) := by
    rw [unwrapProse, hsplit, List.map_cons, joinWith_cons_flat, strip, stripLeft_keep pyWs (c :: h) (by simpa using hw),
      stripRight_cons pyWs c h hw, List.cons_append, stripRight_cons pyWs c _ hw]
  refine ⟨hno, ⟨fun a ha => ?_, fun a ha => stripRight_last pyWs _ a ha⟩, by rw [hfirst]; simp⟩
  rw [hfirst] at ha; cases ha; exact hw

/-- **the prose normalisation is idempotent** (on prose that starts with a visible character) -/
theorem unwrapProse_idem (d : Str) (c : Char) (hc : d.head? = some c) (hw : pyWs.contains c = false) :
    unwrapProse (unwrapProse d) = unwrapProse d :=
  unwrapProse_single _ (unwrapProse_shape d c hc hw).1 (unwrapProse_shape d c hc hw).2.1

def optPre : Str := ['O', 'p', 't', 'i', 'o', 'n', 'a', 'l', '[']
def gOpt : Str := [',', ' ', 'o', 'p', 't', 'i', 'o', 'n', 'a', 'l']
def pOpt1 : Str := ['(', 'O', 'p', 't', 'i', 'o', 'n', 'a', 'l', ')']
def pOpt2 : Str := ['O', 'p', 't', 'i', 'o', 'n', 'a', 'l']
theorem optPre_eq : "Optional[".toList = optPre := by rw [String.toList_ofList]; rfl
theorem gOpt_eq : ", optional".toList = gOpt := by rw [String.toList_ofList]; rfl
theorem pOpt1_eq : "(Optional)".toList = pOpt1 := by rw [String.toList_ofList]; rfl
theorem pOpt2_eq : "Optional".toList = pOpt2 := by rw [String.toList_ofList]; rfl

theorem endsWith_bracket (y : Str) : endsWith (y ++ [']']) gOpt = false := by
  simp [endsWith, gOpt, List.isPrefixOf]

/-- what `_set_name_and_type` returns on a default-free entry that is not a `**kwargs` one (`setNameAndType_eq`) -/
def normalised (p : Param) : Param :=
  let p1 : Param := match p.typ with
    | some t => if endsWith t gOpt then { p with typ := some (optPre ++ t.take (t.length - gOpt.length) ++ [']']) } else p
    | none => p
  match p1.doc with
  | none => p1
  | some d =>
    if d.isEmpty then { p1 with doc := none } else
    let d' := unwrapProse d
    let p2 : Param := { p1 with doc := some d' }
    match p2.typ with
    | some t =>
      if (startsWith d' pOpt1 || startsWith d' pOpt2) && !startsWith t optPre
      then { p2 with typ := some (optPre ++ t ++ [']']) } else p2
    | none => p2

theorem setNameAndType_eq (n : Str) (p : Param) (hkw : (endsWith n "kwargs".toList || startsWith n ['*', '*']) = false)
    (hd : p.default = none) : setNameAndType (some n) p false true = .ok (n, normalised p) := by
  unfold setNameAndType normalised
  simp only [hkw, Bool.false_eq_true, if_false, hd, Option.isSome_none, Res.bind, gOpt_eq, optPre_eq, pOpt1_eq, pOpt2_eq]
  -- both sides run the same type stage; what follows it looks only at the prose: absent, empty, or not
  rcases p.typ with _ | t
  · obtain ⟨doc, typ, dflt⟩ := p
    rcases doc with _ | _ | ⟨a, r⟩ <;> rfl
  · dsimp only
    generalize (if endsWith t gOpt = true then _ else p) = p1
    obtain ⟨doc, typ, dflt⟩ := p1
    rcases doc with _ | _ | ⟨a, r⟩ <;> rfl

/-! The step acts field by field (`normalised_eq`): the prose by `nDoc`, the type by `nTyp` and then, under the new
    prose, `nOpt`; the default is left alone. -/

def nTyp (t : Str) : Str := if endsWith t gOpt then optPre ++ t.take (t.length - gOpt.length) ++ [']'] else t

def nDoc (d : Option Str) : Option Str := d.bind fun d => if d.isEmpty then none else some (unwrapProse d)

def nOpt (d : Option Str) (t : Str) : Str :=
  match d with
  | some d => if (startsWith d pOpt1 || startsWith d pOpt2) && !startsWith t optPre then optPre ++ t ++ [']'] else t
  | none => t

def fieldwise (p : Param) : Param :=
  { doc := nDoc p.doc, typ := p.typ.map fun t => nOpt (nDoc p.doc) (nTyp t), default := p.default }

theorem normalised_eq (p : Param) : normalised p = fieldwise p := by
  obtain ⟨doc, _ | t, dflt⟩ := p
  · rcases doc with _ | _ | ⟨a, r⟩ <;> rfl
  · have hT : (if endsWith t gOpt = true
          then ({ doc := doc, typ := some (optPre ++ t.take (t.length - gOpt.length) ++ [']']), default := dflt } : Param)
          else { doc := doc, typ := some t, default := dflt }) = { doc := doc, typ := some (nTyp t), default := dflt } := by
      unfold nTyp; split <;> rfl
    unfold normalised
    simp only [hT]
    rcases doc with _ | _ | ⟨a, r⟩
    · rfl
    · rfl
    · simp only [fieldwise, nDoc, nOpt, Option.bind_some, List.isEmpty_cons, Bool.false_eq_true, if_false, Option.map_some]
      split <;> rfl

theorem nTyp_fix {t : Str} (h : endsWith t gOpt = false) : nTyp t = t := by simp [nTyp, h]

/-- after the step the type no longer ends with `, optional`: it ends with a bracket, or never did -/
theorem nTyp_nOpt (d : Option Str) (t : Str) : nTyp (nOpt d (nTyp t)) = nOpt d (nTyp t) := by
  have hT : endsWith (nTyp t) gOpt = false := by
    unfold nTyp; split
    · exact endsWith_bracket _
    · exact Bool.eq_false_iff.mpr ‹_›
  apply nTyp_fix
  unfold nOpt; split
  · split
    · exact endsWith_bracket _
    · exact hT
  · exact hT

theorem nOpt_idem (d : Option Str) (t : Str) : nOpt d (nOpt d t) = nOpt d t := by
  rcases d with _ | d
  · rfl
  · by_cases h : ((startsWith d pOpt1 || startsWith d pOpt2) && !startsWith t optPre) = true
    · have := startsWith_append_self optPre (t ++ [']'])
      simp only [nOpt, h, if_true, List.append_assoc, this, Bool.not_true, Bool.and_false, Bool.false_eq_true, if_false]
    · simp [nOpt, h]

def ProseOK (p : Param) : Prop := ∀ d, p.doc = some d → d.isEmpty = false → ∃ c, d.head? = some c ∧ pyWs.contains c = false

theorem nDoc_idem (p : Param) (hp : ProseOK p) : nDoc (nDoc p.doc) = nDoc p.doc := by
  rcases hdoc : p.doc with _ | x
  · rfl
  · by_cases hx : x.isEmpty = true
    · simp only [nDoc, hx, Option.bind_some, if_true, Option.bind_none]
    · obtain ⟨c, hc, hw⟩ := hp x hdoc (by simpa using hx)
      have hne := List.isEmpty_eq_false_iff.mpr (unwrapProse_shape x c hc hw).2.2
      simp only [nDoc, hx, Option.bind_some, Bool.false_eq_true, if_false, hne, unwrapProse_idem x c hc hw]

/-- **the normalising step is idempotent** on a default-free entry -/
theorem normalised_idem (p : Param) (hp : ProseOK p) : normalised (normalised p) = normalised p := by
  rw [normalised_eq (normalised p), normalised_eq p]
  simp only [fieldwise, nDoc_idem p hp, Option.map_map, Function.comp_def, nTyp_nOpt, nOpt_idem]

/-- **C08, statement level**: on a default-free entry that is not a `**kwargs` one, a second pass of
    `_set_name_and_type` over its own result changes nothing -/
theorem setNameAndType_idem (n : Str) (p : Param)
    (hkw : (endsWith n "kwargs".toList || startsWith n ['*', '*']) = false) (hd : p.default = none) (hp : ProseOK p) :
    ∃ q, setNameAndType (some n) p false true = .ok (n, q) ∧ setNameAndType (some n) q false true = .ok (n, q) := by
  refine ⟨normalised p, setNameAndType_eq n p hkw hd, ?_⟩
  rw [setNameAndType_eq n _ hkw (by rw [normalised_eq]; exact hd), normalised_idem p hp]

/-- non-vacuity: prose that starts with "Optional" under the type `int` - the first pass wraps the type, the second
    leaves everything alone -/
def exP : Param := { doc := some ['O', 'p', 't', 'i', 'o', 'n', 'a', 'l', ' ', 'n', '.', '\n', ' ', ' ', 'm', 'o', 'r', 'e'], typ := some ['i', 'n', 't'], default := none }

example : ∃ q, setNameAndType (some ['n']) exP false true = .ok (['n'], q) ∧ setNameAndType (some ['n']) q false true = .ok (['n'], q) :=
  setNameAndType_idem ['n'] exP (by rw [String.toList_ofList]; decide +kernel) rfl
    (by intro d hd _; simp only [exP, Option.some.injEq] at hd; subst hd; exact ⟨'O', rfl, by decide⟩)

theorem exP_normalised : normalised exP =
    { doc := some ['O', 'p', 't', 'i', 'o', 'n', 'a', 'l', ' ', 'n', '.', ' ', 'm', 'o', 'r', 'e'],
      typ := some ['O', 'p', 't', 'i', 'o', 'n', 'a', 'l', '[', 'i', 'n', 't', ']'], default := none } := by decide +kernel

end SetNameIdem
end Py
