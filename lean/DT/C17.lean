import DT.DefaultsLemmas
/-! C17: `extract_default` on a line of the shape `set_default_doc` writes: prose, ` Defaults to `, value text.
    One theorem (`C17_closed`) carries stages 1 and 4 for any value text; a value kind supplies three facts about
    its text: the scan keeps it, the trimming keeps it (`TrimStable`), and what the value stage makes of it.
    Value texts covered: `None`, `True`, `False`; decimal integers, with `-` when no scalar type is declared (typed:
    the one line with `-2`); floats `ip.fr` and any float token the scan and the trimming keep (`C17Float.lean`);
    double-quoted strings under `:type: str`. -/
namespace Py

theorem announced_locate (p txt : Str)
    (hp : NoOccBefore phrase0 (p ++ announce ++ txt) (p.length + 1)) :
    locate (p ++ announce ++ txt) phrases = some (p.length + 1, p.length + 13) := by
  -- behind the prose and the blank stands the first phrase, capitalised; `hp`: it is the first occurrence
  have hdrop : (p ++ announce ++ txt).drop (p.length + 1) = announce.tail ++ txt := by
    rw [List.append_assoc, ← List.drop_drop, List.drop_left]; rfl
  have hocc : (casefold phrase0).isPrefixOf (casefold ((p ++ announce ++ txt).drop (p.length + 1))) = true := by
    rw [hdrop, casefold_append, announce_fold]
    exact startsWith_append_self _ _
  rw [phrases_eq, locate_cons_of_found _ _ _ _ (findCI_at _ _ _ hocc hp)]
  rfl

theorem announced_drop (p txt : Str) : (p ++ announce ++ txt).drop (p.length + 13) = txt := by
  have hl : (p ++ announce).length = p.length + 13 := by simp only [List.length_append, announce_len]
  rw [← hl, List.drop_left]

theorem resultStage_remove_end (line : Str) (k : Nat) (v : Val) :
    resultStage line (k + 1) line.length false v = ⟨line.take k, some v⟩ := by
  simp [resultStage]

theorem resultStage_announced (p txt : Str) (keep : Bool) (v : Val) :
    resultStage (p ++ announce ++ txt) (p.length + 1) (p.length + 13 + txt.length) keep v
      = ⟨if keep then p ++ announce ++ txt else p, some v⟩ := by
  cases keep with
  | true => rfl
  | false =>
    have hl : p.length + 13 + txt.length = (p ++ announce ++ txt).length := by
      simp only [List.length_append, announce_len]
    rw [hl, resultStage_remove_end, List.append_assoc, List.take_left]
    rfl

theorem extract_announced (p txt : Str) (typ : Option Str) (keep : Bool)
    (hp : NoOccBefore phrase0 (p ++ announce ++ txt) (p.length + 1))
    (hscan : scanDefault txt false = txt) :
    extractDefault (p ++ announce ++ txt) typ keep
      = (valueStage (trimStage txt) typ).bind fun v => .ok ⟨if keep then p ++ announce ++ txt else p, some v⟩ := by
  unfold extractDefault
  rw [announced_locate p txt hp]
  simp only [announced_drop, hscan, resultStage_announced]

/-- C17, keep mode, for any prose in which the phrase does not occur earlier and any value text the scan keeps: the
    line is returned unchanged, the value is whatever stages 2–3 make of the text -/
theorem extract_announced_keep (p txt : Str) (typ : Option Str)
    (hp : NoOccBefore phrase0 (p ++ announce ++ txt) (p.length + 1))
    (hscan : scanDefault txt false = txt) :
    extractDefault (p ++ announce ++ txt) typ true
      = (valueStage (trimStage txt) typ).bind fun v => .ok ⟨p ++ announce ++ txt, some v⟩ :=
  extract_announced p txt typ true hp hscan

/-- C17, removal mode: exactly the prose in front of the sentence comes back -/
theorem extract_announced_remove (p txt : Str) (typ : Option Str)
    (hp : NoOccBefore phrase0 (p ++ announce ++ txt) (p.length + 1))
    (hscan : scanDefault txt false = txt) :
    extractDefault (p ++ announce ++ txt) typ false
      = (valueStage (trimStage txt) typ).bind fun v => .ok ⟨p, some v⟩ :=
  extract_announced p txt typ false hp hscan

/-- C17 for any value text: when the scan keeps `txt` and stages 2–3 make `v` of it, `extract_default` reads `v` from a
    line of the shape `set_default_doc` writes and returns that line (keep) or the prose in front of the sentence (removal) -/
theorem C17_closed (p txt : Str) (typ : Option Str) (v : Val) (keep : Bool)
    (hscan : scanDefault txt false = txt) (hval : valueStage (trimStage txt) typ = .ok v)
    (hp : NoOccBefore phrase0 (p ++ announce ++ txt) (p.length + 1)) :
    extractDefault (p ++ announce ++ txt) typ keep = .ok ⟨if keep then p ++ announce ++ txt else p, some v⟩ := by
  rw [extract_announced p txt typ keep hp hscan, hval]; rfl

theorem scanDefault_plain (a rest : Str) (seen : Bool) (h : ∀ c ∈ a, (c == '.') = false ∧ isBracket c = false) :
    scanDefault (a ++ rest) seen = a ++ scanDefault rest seen := by
  induction a with
  | nil => rfl
  | cons c t ih =>
    obtain ⟨h1, h2⟩ := h c (by simp)
    simp only [List.cons_append, scanDefault, h1, Bool.false_and, Bool.false_eq_true, if_false, h2, Bool.or_false]
    rw [ih (fun c hc => h c (by simp [hc]))]

theorem scanDefault_noDot (txt : Str) (h : '.' ∉ txt) (seen : Bool) : scanDefault txt seen = txt := by
  induction txt generalizing seen with
  | nil => rfl
  | cons c t ih =>
    have hc : (c == '.') = false := beq_false_of_ne (List.ne_of_not_mem_cons h).symm
    simp only [scanDefault, hc, Bool.false_and, Bool.false_eq_true, if_false]
    rw [ih (List.not_mem_of_not_mem_cons h)]

theorem scanDefault_digits (v : Str) (h : v.all isAsciiDigit = true) : scanDefault v false = v :=
  scanDefault_noDot v (fun hm => absurd (List.all_eq_true.mp h _ hm) (by decide)) false

structure TrimStable (txt : Str) : Prop where
  headKeep : ∀ c, txt.head? = some c → [' ', '\t', '`'].contains c = false
  lastKeep : ∀ c, txt.getLast? = some c → [' ', '\t', '`'].contains c = false
  notDotEnd : endsWith txt [')', '.'] = false

theorem trimStage_stable (txt : Str) (h : TrimStable txt) : trimStage txt = txt := by
  unfold trimStage
  rw [strip_keep _ txt h.headKeep h.lastKeep]
  simp only [h.notDotEnd, Bool.and_false, Bool.false_eq_true, if_false]

theorem C17_stable (p txt : Str) (typ : Option Str) (v : Val) (keep : Bool)
    (hscan : scanDefault txt false = txt) (hst : TrimStable txt) (hval : valueStage txt typ = .ok v)
    (hp : NoOccBefore phrase0 (p ++ announce ++ txt) (p.length + 1)) :
    extractDefault (p ++ announce ++ txt) typ keep = .ok ⟨if keep then p ++ announce ++ txt else p, some v⟩ :=
  C17_closed p txt typ v keep hscan (by rw [trimStage_stable txt hst, hval]) hp

theorem TrimStable.of_ends {txt : Str} (hh : ∀ c, txt.head? = some c → [' ', '\t', '`'].contains c = false)
    (hl : ∀ c, txt.getLast? = some c → [' ', '\t', '`'].contains c = false ∧ c ≠ '.') : TrimStable txt := by
  refine ⟨hh, fun c hc => (hl c hc).1, Bool.eq_false_iff.mpr fun h => ?_⟩
  obtain ⟨t, rfl⟩ := (endsWith_iff _ _).mp h
  exact (hl '.' (by simp)).2 rfl

theorem strip_digitEnds {txt : Str} (hh : ∀ c, txt.head? = some c → isAsciiDigit c = true)
    (hl : ∀ c, txt.getLast? = some c → isAsciiDigit c = true) (chars : Str) (hc : chars.any isAsciiDigit = false) :
    strip chars txt = txt :=
  strip_keep chars txt (fun c h => not_contains_of_test _ (hh c h) hc) (fun c h => not_contains_of_test _ (hl c h) hc)

theorem TrimStable.of_lastDigit {txt : Str} (hh : ∀ c, txt.head? = some c → [' ', '\t', '`'].contains c = false)
    (hl : ∀ c, txt.getLast? = some c → isAsciiDigit c = true) : TrimStable txt :=
  .of_ends hh (fun c h => ⟨not_contains_of_test _ (hl c h) (by decide), ne_of_test _ (hl c h) (by decide)⟩)

theorem TrimStable.of_digitEnds {txt : Str} (hh : ∀ c, txt.head? = some c → isAsciiDigit c = true)
    (hl : ∀ c, txt.getLast? = some c → isAsciiDigit c = true) : TrimStable txt :=
  .of_lastDigit (fun c h => not_contains_of_test _ (hh c h) (by decide)) hl

theorem valueStage_untyped (d : Str) (typ : Option Str) (ht : ∀ t, typ = some t → simpleTypes.contains t = false) :
    valueStage d typ = untypedValue d := by
  unfold valueStage
  cases typ with
  | none => simp only [Bool.false_eq_true, if_false]
  | some t => simp only [ht t rfl, Bool.false_and, Bool.false_eq_true, if_false]

theorem valueStage_typed (d t : Str) (ht : simpleTypes.contains t = true) (hn : noneTypes.contains d = false) :
    valueStage d (some t) = (literalEval d).bind (coerce t) := by
  simp only [valueStage, ht, hn, Bool.not_false, Bool.and_self, if_true, Option.getD_some]

theorem literalEval_int {t : Str} (hs : strip [' ', '\t'] t = t) (hi : isIntTok t = true)
    (hc : ¬ ((splitSign t).2.length > 1 ∧ (splitSign t).2.head? = some '0' ∧ (splitSign t).2.any (· != '0') = true)) :
    literalEval t = .ok (.int (splitSign t).1 (splitSign t).2) := by
  obtain ⟨k1, k2, k3⟩ := not_keyword isIntTok hi (by decide)
  unfold literalEval
  simp only [hs, bne_self_eq_false, Bool.false_eq_true, if_false, hi, if_true, k1, k2, k3]
  exact if_neg fun h => hc (by simpa only [Bool.and_eq_true, decide_eq_true_eq, beq_iff_eq, and_assoc] using h)

theorem literalEval_float {t : Str} (hs : strip [' ', '\t'] t = t) (hi : isIntTok t = false)
    (hf : isFloatTok t = true) : literalEval t = .ok (.float t) := by
  obtain ⟨k1, k2, k3⟩ := not_keyword isFloatTok hf (by decide)
  unfold literalEval
  simp only [hs, bne_self_eq_false, Bool.false_eq_true, if_false, hi, hf, if_true, k1, k2, k3]

theorem decimal_ends {d : Str} (hd : isDecimal d = true) :
    (∀ c, d.head? = some c → isAsciiDigit c = true) ∧ (∀ c, d.getLast? = some c → isAsciiDigit c = true) :=
  ⟨all_head (isDecimal_iff.mp hd).2, all_last (isDecimal_iff.mp hd).2⟩

theorem digits_trimStable (d : Str) (hd : isDecimal d = true) : TrimStable d :=
  .of_digitEnds (decimal_ends hd).1 (decimal_ends hd).2

theorem untypedValue_digits (d : Str) (hd : isDecimal d = true) : untypedValue d = .ok (.int false d) := by
  simp only [untypedValue, hd, if_true]

/-- `literal_eval` of canonical digits (`str(int)` has no leading zero unless it is "0"; a literal with one is a
    syntax error) -/
theorem literalEval_digits (d : Str) (hd : isDecimal d = true)
    (hcanon : ¬ (d.length > 1 ∧ d.head? = some '0' ∧ d.any (· != '0') = true)) :
    literalEval d = .ok (.int false d) := by
  obtain ⟨c, t, rfl⟩ := List.exists_cons_of_ne_nil (isDecimal_iff.mp hd).1
  have hu := digit_unsigned ((decimal_ends hd).1 c rfl)
  have := literalEval_int (t := c :: t) (strip_digitEnds (decimal_ends hd).1 (decimal_ends hd).2 _ (by decide))
    (by rw [isIntTok_unsigned t hu, hd])
  rw [splitSign_unsigned t hu] at this
  exact this hcanon

/-- a non-negative integer default, no scalar type declared: comes back as the same `int`, doc kept or removed -/
theorem C17_int (p d : Str) (typ : Option Str) (keep : Bool) (hd : isDecimal d = true)
    (ht : ∀ t, typ = some t → simpleTypes.contains t = false)
    (hp : NoOccBefore phrase0 (p ++ announce ++ d) (p.length + 1)) :
    extractDefault (p ++ announce ++ d) typ keep
      = .ok ⟨if keep then p ++ announce ++ d else p, some (.int false d)⟩ :=
  C17_stable p d typ _ keep (scanDefault_digits d (isDecimal_iff.mp hd).2) (digits_trimStable d hd)
    (by rw [valueStage_untyped d typ ht, untypedValue_digits d hd]) hp

/-- the same with `:type: int` — the typed branch (`literal_eval` + `int()`) -/
theorem C17_int_typed (p d : Str) (keep : Bool) (hd : isDecimal d = true)
    (hcanon : ¬ (d.length > 1 ∧ d.head? = some '0' ∧ d.any (· != '0') = true))
    (hp : NoOccBefore phrase0 (p ++ announce ++ d) (p.length + 1)) :
    extractDefault (p ++ announce ++ d) (some "int".toList) keep
      = .ok ⟨if keep then p ++ announce ++ d else p, some (.int false d)⟩ :=
  C17_stable p d _ _ keep (scanDefault_digits d (isDecimal_iff.mp hd).2) (digits_trimStable d hd)
    (by rw [valueStage_typed d _ scalar_simple.1 (not_noneType isDecimal hd (by decide)), literalEval_digits d hd hcanon,
          Res.bind, coerce_int_int]) hp

theorem C17_true (p : Str) (keep : Bool)
    (hp : NoOccBefore phrase0 (p ++ announce ++ "True".toList) (p.length + 1)) :
    extractDefault (p ++ announce ++ "True".toList) none keep
      = .ok ⟨if keep then p ++ announce ++ "True".toList else p, some (.bool true)⟩ :=
  C17_closed p _ none _ keep (by decide +kernel) (by decide +kernel) hp

theorem C17_false_typed (p : Str) (keep : Bool)
    (hp : NoOccBefore phrase0 (p ++ announce ++ "False".toList) (p.length + 1)) :
    extractDefault (p ++ announce ++ "False".toList) (some "bool".toList) keep
      = .ok ⟨if keep then p ++ announce ++ "False".toList else p, some (.bool false)⟩ :=
  C17_closed p _ _ _ keep (by decide +kernel) (by decide +kernel) hp

theorem C17_false (p : Str) (keep : Bool) (hp : NoOccBefore phrase0 (p ++ announce ++ "False".toList) (p.length + 1)) :
    extractDefault (p ++ announce ++ "False".toList) none keep
      = .ok ⟨if keep then p ++ announce ++ "False".toList else p, some (.bool false)⟩ :=
  C17_closed p _ none _ keep (by decide +kernel) (by decide +kernel) hp

theorem C17_true_typed (p : Str) (keep : Bool) (hp : NoOccBefore phrase0 (p ++ announce ++ "True".toList) (p.length + 1)) :
    extractDefault (p ++ announce ++ "True".toList) (some "bool".toList) keep
      = .ok ⟨if keep then p ++ announce ++ "True".toList else p, some (.bool true)⟩ :=
  C17_closed p _ _ _ keep (by decide +kernel) (by decide +kernel) hp

/-- `None` as written by `set_default_doc` for a None default is read back as the STRING "None" when no scalar type is
    declared (what the ReST parser hands on; `Kinds.isNoneVal` treats it as "no value") -/
theorem C17_none_untyped (p : Str) (keep : Bool) (hp : NoOccBefore phrase0 (p ++ announce ++ "None".toList) (p.length + 1)) :
    extractDefault (p ++ announce ++ "None".toList) none keep
      = .ok ⟨if keep then p ++ announce ++ "None".toList else p, some (.str "None".toList)⟩ :=
  C17_closed p _ none _ keep (by decide +kernel) (by decide +kernel) hp

/-- D4 as repaired by `fix:` 74e4195: an un-typed negative integer comes back as an `int` -/
theorem C17_negint_untyped_witness :
    extractDefault ("size.".toList ++ announce ++ "-2".toList) none true
      = .ok ⟨"size.".toList ++ announce ++ "-2".toList, some (.int true ['2'])⟩ := by decide +kernel

theorem scanDefault_negdigits (d : Str) (h : d.all isAsciiDigit = true) :
    scanDefault ('-' :: d) false = '-' :: d := by
  have := scanDefault_plain ['-'] d false (fun c hc => by cases List.mem_singleton.mp hc; decide)
  rwa [scanDefault_digits d h] at this

theorem untypedValue_negdigits (d : Str) (hd : isDecimal d = true) : untypedValue ('-' :: d) = .ok (.int true d) := by
  simp [untypedValue, isDecimal_cons_nondigit d (c := '-') (by decide), hd]

theorem negdigits_trimStable (d : Str) (hd : isDecimal d = true) : TrimStable ('-' :: d) :=
  .of_lastDigit (fun c hc => by cases hc; decide)
    (fun c hc => (decimal_ends hd).2 c (List.getLast?_cons_of_ne_nil (isDecimal_iff.mp hd).1 ▸ hc))

/-- a negative integer default with no scalar type declared: the same `int` comes back (both modes) -/
theorem C17_negint (p d : Str) (typ : Option Str) (keep : Bool) (hd : isDecimal d = true)
    (ht : ∀ t, typ = some t → simpleTypes.contains t = false)
    (hp : NoOccBefore phrase0 (p ++ announce ++ ('-' :: d)) (p.length + 1)) :
    extractDefault (p ++ announce ++ ('-' :: d)) typ keep
      = .ok ⟨if keep then p ++ announce ++ ('-' :: d) else p, some (.int true d)⟩ :=
  C17_stable p _ typ _ keep (scanDefault_negdigits d (isDecimal_iff.mp hd).2) (negdigits_trimStable d hd)
    (by rw [valueStage_untyped _ typ ht, untypedValue_negdigits d hd]) hp

/-- the same line with `:type: int`: the typed branch answers the same `int` -/
theorem C17_negint_typed :
    extractDefault ("size.".toList ++ announce ++ "-2".toList) (some "int".toList) true
      = .ok ⟨"size.".toList ++ announce ++ "-2".toList, some (.int true ['2'])⟩ := by decide +kernel

/-- a string default that is read back: no full stop, at which the scan of `extract_default` may end the value; no
    quote, back-slash or line break, with which `literal_eval` leaves its modelled branch -/
structure StrOK (s : Str) : Prop where
  noDot : '.' ∉ s
  noQuote : '"' ∉ s
  noBackslash : '\\' ∉ s
  noNl : '\n' ∉ s

def quoted (s : Str) : Str := '"' :: s ++ ['"']

theorem quoted_getLast (s : Str) : (quoted s).getLast? = some '"' :=
  List.getLast?_concat (l := '"' :: s)

/-- the test that tells a quoted text from the literals of the tables -/
def quoteHead (t : Str) : Bool := t.head? == some '"'

theorem quoted_trimStable (s : Str) : TrimStable (quoted s) :=
  .of_ends (fun c hc => by cases hc; decide) (fun c hc => by cases (quoted_getLast s).symm.trans hc; decide)

theorem literalEval_quoted (s : Str) (hs : StrOK s) : literalEval (quoted s) = .ok (.str s) := by
  have hstrip : strip [' ', '\t'] (quoted s) = quoted s :=
    strip_keep _ _ (fun c hc => by cases hc; decide) (fun c hc => by cases (quoted_getLast s).symm.trans hc; decide)
  have hnum : isIntTok (quoted s) = false ∧ isFloatTok (quoted s) = false :=
    not_number_of_head (s ++ ['"']) (by decide) (by decide) (by decide)
  obtain ⟨k1, k2, k3⟩ := not_keyword quoteHead (t := quoted s) rfl (by decide)
  -- what is left of `literal_eval` looks at the two ends and at the characters between them
  have hrev : (s ++ ['"']).reverse = '"' :: s.reverse := List.reverse_concat
  unfold literalEval
  simp only [hstrip, bne_self_eq_false, Bool.false_eq_true, if_false, hnum.1, hnum.2, k1, k2, k3]
  simp only [quoted, List.cons_append, beq_self_eq_true, Bool.true_or, if_true, hrev, List.reverse_reverse,
    List.contains_eq_mem, hs.noQuote, hs.noBackslash, hs.noNl, decide_false, Bool.not_false, Bool.and_self]

theorem C17_str_typed (p s : Str) (keep : Bool) (hs : StrOK s)
    (hp : NoOccBefore phrase0 (p ++ announce ++ quoted s) (p.length + 1)) :
    extractDefault (p ++ announce ++ quoted s) (some "str".toList) keep
      = .ok ⟨if keep then p ++ announce ++ quoted s else p, some (.str s)⟩ := by
  have hdot : '.' ∉ quoted s := by simp [quoted, hs.noDot]
  exact C17_stable p _ _ _ keep (scanDefault_noDot _ hdot false) (quoted_trimStable s)
    (by rw [valueStage_typed _ _ scalar_simple.2.2 (not_noneType quoteHead rfl (by decide)), literalEval_quoted s hs,
          Res.bind, coerce_str_str]) hp

#print axioms C17_str_typed
#print axioms C17_int
#print axioms C17_int_typed
#print axioms C17_negint

end Py
