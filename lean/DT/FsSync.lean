/-! C20: a file write as a list of steps, any of which may raise (`runFault`). Truncating the target and then writing
    is not all-or-nothing; writing a temporary file and moving it over the target is, also for several targets. -/
namespace FsSync

abbrev Path := Nat
abbrev Text := List Char
/-- a file system: contents by path; `none` = file absent -/
abbrev FS := Path → Option Text

def FS.set (fs : FS) (p : Path) (v : Option Text) : FS := fun q => if q = p then v else fs q

@[simp] theorem FS.set_same (fs : FS) (p : Path) (v : Option Text) : (fs.set p v) p = v := by simp [FS.set]
@[simp] theorem FS.set_other (fs : FS) (p q : Path) (v : Option Text) (h : q ≠ p) : (fs.set p v) q = fs q := by
  simp [FS.set, h]

@[simp] theorem FS.set_set (fs : FS) (p : Path) (v w : Option Text) : (fs.set p v).set p w = fs.set p w := by
  funext q; by_cases h : q = p <;> simp [FS.set, h]

@[simp] theorem FS.set_set_set (fs : FS) (p q : Path) (u v w : Option Text) :
    ((fs.set q u).set p v).set q w = (fs.set p v).set q w := by
  funext r; by_cases h : r = q <;> simp [FS.set, h]

theorem FS.set_eq_self {fs : FS} {p : Path} {v : Option Text} (h : fs p = v) : fs.set p v = fs := by
  funext q; by_cases hq : q = p <;> simp [FS.set, hq, h]

inductive Step where
  | openTrunc (p : Path)               -- `open(p, "wt")`
  | write (p : Path) (chunk : Text)    -- one `write` call (or the part of it that reached the disk)
  | replace (src dst : Path)           -- `os.replace`
  | unlink (p : Path)

def step (fs : FS) : Step → FS
  | .openTrunc p => fs.set p (some [])
  | .write p c => fs.set p (some ((fs p).getD [] ++ c))
  | .replace s d => (fs.set d (fs s)).set s none
  | .unlink p => fs.set p none

def run (fs : FS) (steps : List Step) : FS := steps.foldl step fs

/-- the steps that are executed when the `i`-th call raises -/
def runFault (fs : FS) (steps : List Step) (i : Nat) : FS := run fs (steps.take i)

/-! ### `emit.file` before fix 0826b1c: truncate, then write (two chunks = "mid-write" is observable) -/

def plainWrite (p : Path) (a b : Text) : List Step := [.openTrunc p, .write p a, .write p b]

theorem plainWrite_complete (fs : FS) (p : Path) (a b : Text) :
    (run fs (plainWrite p a b)) p = some (a ++ b) := by
  simp [run, plainWrite, step]

/-- C20 was false of that code: a fault right after `open` leaves an empty file -/
theorem plainWrite_not_all_or_nothing :
    ∃ (fs : FS) (p : Path) (a b : Text) (i : Nat),
      (runFault fs (plainWrite p a b) i) p ≠ fs p ∧ (runFault fs (plainWrite p a b) i) p ≠ some (a ++ b) := by
  refine ⟨fun _ => some ['x'], 0, ['y'], ['z'], 1, ?_, ?_⟩ <;> simp [runFault, run, plainWrite, step]

/-! ### `emit.file` since that fix: write a temp file, `os.replace`, unlink the temp file on failure -/

def atomicSteps (tmp p : Path) (a b : Text) : List Step :=
  [.openTrunc tmp, .write tmp a, .write tmp b, .replace tmp p]

/-- what the `try/except` does: on a fault before the end (`4` = `atomicSteps.length`), the temp file is removed -/
def runAtomicFault (fs : FS) (tmp p : Path) (a b : Text) (i : Nat) : FS :=
  if i < 4 then step (runFault fs (atomicSteps tmp p a b) i) (.unlink tmp) else run fs (atomicSteps tmp p a b)

/-- the file system after a completed atomic write; the other outcome, a fault, is `fs.set tmp none` -/
def commit (fs : FS) (tmp p : Path) (new : Text) : FS := (fs.set p (some new)).set tmp none

@[simp] theorem commit_tmp (fs : FS) (tmp p : Path) (new : Text) : commit fs tmp p new tmp = none := FS.set_same ..

theorem commit_p (fs : FS) {tmp p : Path} (new : Text) (h : tmp ≠ p) : commit fs tmp p new p = some new := by
  simp [commit, h.symm]

theorem commit_other (fs : FS) {tmp p q : Path} (new : Text) (h1 : q ≠ p) (h2 : q ≠ tmp) :
    commit fs tmp p new q = fs q := by
  simp [commit, h1, h2]

theorem run_atomicSteps (fs : FS) (tmp p : Path) (a b : Text) :
    run fs (atomicSteps tmp p a b) = commit fs tmp p (a ++ b) := by
  simp [run, atomicSteps, step, commit]

theorem runAtomicFault_eq (fs : FS) (tmp p : Path) (a b : Text) (i : Nat) :
    runAtomicFault fs tmp p a b i = if i < 4 then fs.set tmp none else commit fs tmp p (a ++ b) := by
  unfold runAtomicFault
  split
  · have : i = 0 ∨ i = 1 ∨ i = 2 ∨ i = 3 := by omega
    rcases this with rfl | rfl | rfl | rfl <;> simp [runFault, run, atomicSteps, step]
  · exact run_atomicSteps ..

theorem atomic_all_or_nothing (fs : FS) (tmp p : Path) (a b : Text) (hne : tmp ≠ p) (htmp : fs tmp = none)
    (i : Nat) :
    let fs' := runAtomicFault fs tmp p a b i
    (fs' p = fs p ∨ fs' p = some (a ++ b)) ∧ fs' tmp = none ∧ ∀ q, q ≠ p → q ≠ tmp → fs' q = fs q := by
  simp only [runAtomicFault_eq]
  split <;> simp +contextual [commit_p _ _ hne, commit_other, hne.symm]

/-! ### several targets in sequence: a fault anywhere leaves every target old or new (atomic variant) -/

structure Target where
  tmp : Path
  p : Path
  a : Text
  b : Text

/-- run targets in order; `fault = none` → all complete; `some (k, i)` → target `k` faults at step `i` -/
def runTargets (fs : FS) : List Target → Option (Nat × Nat) → FS
  | [], _ => fs
  | t :: ts, none => runTargets (run fs (atomicSteps t.tmp t.p t.a t.b)) ts none
  | t :: _, some (0, i) => runAtomicFault fs t.tmp t.p t.a t.b i
  | t :: ts, some (k + 1, i) => runTargets (run fs (atomicSteps t.tmp t.p t.a t.b)) ts (some (k, i))

def Disjoint (fs : FS) (ts : List Target) : Prop :=
  (ts.map (·.p) ++ ts.map (·.tmp)).Nodup ∧ ∀ t ∈ ts, fs t.tmp = none

/-- all paths of the operation: distinct, and no temp file exists yet -/
def Fresh (fs : FS) (ts : List Target) : Prop :=
  (ts.flatMap fun t => [t.p, t.tmp]).Nodup ∧ ∀ t ∈ ts, fs t.tmp = none

theorem Fresh.head {fs : FS} {t : Target} {ts : List Target} (h : Fresh fs (t :: ts)) :
    t.tmp ≠ t.p ∧ fs t.tmp = none ∧ (∀ u ∈ ts, t.p ≠ u.p ∧ t.p ≠ u.tmp) ∧ (∀ u ∈ ts, t.tmp ≠ u.p ∧ t.tmp ≠ u.tmp) := by
  obtain ⟨hnd, hnone⟩ := h
  -- `Nodup (t.p :: t.tmp :: rest)` written out: (`t.p ≠ t.tmp` ∧ `t.p` not among the rest) ∧ (`t.tmp` not among the rest) ∧ ..
  simp only [List.flatMap_cons, List.cons_append, List.nil_append, List.nodup_cons, List.mem_cons,
    List.mem_flatMap, List.mem_nil_iff, or_false, not_or, not_exists, not_and] at hnd
  exact ⟨fun e => hnd.1.1 e.symm, hnone t (by simp), hnd.1.2, hnd.2.1⟩

theorem Fresh.tail {fs : FS} {t : Target} {ts : List Target} (h : Fresh fs (t :: ts)) :
    Fresh (commit fs t.tmp t.p (t.a ++ t.b)) ts := by
  have ⟨_, _, hp, ht⟩ := h.head
  refine ⟨(List.nodup_cons.mp (List.nodup_cons.mp h.1).2).2, fun u hu => ?_⟩
  rw [commit_other _ _ (hp u hu).2.symm (ht u hu).2.symm]
  exact h.2 u (by simp [hu])

/-- the head target aborts, or commits and the run stops there, or commits and the run goes on -/
theorem runTargets_cons_cases (fs : FS) (t : Target) (ts : List Target) (f : Option (Nat × Nat)) :
    let g := commit fs t.tmp t.p (t.a ++ t.b)
    runTargets fs (t :: ts) f = fs.set t.tmp none ∨ runTargets fs (t :: ts) f = g ∨
      ∃ f', runTargets fs (t :: ts) f = runTargets g ts f' := by
  match f with
  | none => exact .inr (.inr ⟨none, by rw [runTargets, run_atomicSteps]⟩)
  | some (k + 1, i) => exact .inr (.inr ⟨some (k, i), by rw [runTargets, run_atomicSteps]⟩)
  | some (0, i) =>
    rw [runTargets, runAtomicFault_eq]
    split
    · exact .inl rfl
    · exact .inr (.inl rfl)

theorem runTargets_frame (ts : List Target) (fs : FS) (f : Option (Nat × Nat)) (q : Path)
    (hq : ∀ t ∈ ts, q ≠ t.p ∧ q ≠ t.tmp) : runTargets fs ts f q = fs q := by
  induction ts generalizing fs f with
  | nil => rfl
  | cons t ts ih =>
    have ⟨h1, h2⟩ := hq t (by simp)
    rcases runTargets_cons_cases fs t ts f with h | h | ⟨f', h⟩ <;> rw [h]
    · exact FS.set_other _ _ _ _ h2
    · exact commit_other _ _ h1 h2
    · rw [ih _ _ fun u hu => hq u (by simp [hu])]; exact commit_other _ _ h1 h2

/-- **C20, fault part, atomic variant**: whatever target faults at whatever step, every target file is either
    exactly as before or completely rewritten, no temp file is left; nothing else is touched (`runTargets_frame`). -/
theorem runTargets_all_or_nothing (ts : List Target) (fs : FS) (hf : Fresh fs ts) (f : Option (Nat × Nat)) :
    ∀ t ∈ ts, (runTargets fs ts f t.p = fs t.p ∨ runTargets fs ts f t.p = some (t.a ++ t.b))
              ∧ runTargets fs ts f t.tmp = none := by
  induction ts generalizing fs f with
  | nil => intro t ht; cases ht
  | cons t ts ih =>
    have ⟨hne, htmp, hp, ht⟩ := hf.head
    intro u hu
    rcases runTargets_cons_cases fs t ts f with h | h | ⟨f', h⟩ <;> rw [h]
    · rw [FS.set_eq_self htmp]; exact ⟨.inl rfl, hf.2 u hu⟩
    · rcases List.mem_cons.mp hu with rfl | hu'
      · exact ⟨.inr (commit_p _ _ hne), commit_tmp ..⟩
      · rw [commit_other _ _ (hp u hu').1.symm (ht u hu').1.symm, commit_other _ _ (hp u hu').2.symm (ht u hu').2.symm]
        exact ⟨.inl rfl, hf.2 u hu⟩
    · rcases List.mem_cons.mp hu with rfl | hu'
      · rw [runTargets_frame ts _ _ u.p hp, runTargets_frame ts _ _ u.tmp ht]
        exact ⟨.inr (commit_p _ _ hne), commit_tmp ..⟩
      · rw [← commit_other fs (t.a ++ t.b) (hp u hu').1.symm (ht u hu').1.symm]
        exact ih _ hf.tail f' u hu'

#print axioms runTargets_all_or_nothing
#print axioms plainWrite_not_all_or_nothing

end FsSync
